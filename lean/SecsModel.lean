import SecsModel.Basic
import SecsModel.Model.Ctor
import SecsModel.Model.Decode
import SecsModel.Model.Fill
import SecsModel.Model.FloatLib
import SecsModel.Model.Item
import SecsModel.Model.Lexer
import SecsModel.Model.Msg
import SecsModel.Model.Parser
import SecsModel.Model.Print
import SecsModel.Model.Strconv
import SecsModel.Model.Utf8
import SecsModel.Model.WF
import SecsModel.Spec.Denotes
import SecsModel.Spec.Wire
import SecsModel.Generated.Facts
import SecsModel.Proofs.Bytes
import SecsModel.Proofs.Codec
import SecsModel.Proofs.Decimal
import SecsModel.Proofs.DecodeWF
import SecsModel.Proofs.Denotes
import SecsModel.Proofs.EllipsisNames
import SecsModel.Proofs.Factories
import SecsModel.Proofs.FillLaws
import SecsModel.Proofs.FillLeaf
import SecsModel.Proofs.FillWF
import SecsModel.Proofs.LexConcat
import SecsModel.Proofs.LexCut
import SecsModel.Proofs.LexLayout
import SecsModel.Proofs.LexPrinted
import SecsModel.Proofs.LexPrintedItems
import SecsModel.Proofs.Lexer
import SecsModel.Proofs.Literals
import SecsModel.Proofs.MsgCodec
import SecsModel.Proofs.NoPanic
import SecsModel.Proofs.NumCase
import SecsModel.Proofs.ParserConcat
import SecsModel.Proofs.ParserEnds
import SecsModel.Proofs.ParserErrs
import SecsModel.Proofs.ParserFuel
import SecsModel.Proofs.ParserLocal
import SecsModel.Proofs.ParserNat
import SecsModel.Proofs.ParserState
import SecsModel.Proofs.ParserWF
import SecsModel.Proofs.PrintParseNum
import SecsModel.Proofs.PrintToks
import SecsModel.Proofs.Scanners
import SecsModel.Proofs.Utf8
import SecsModel.Proofs.Wire
import SecsModel.Props.C01
import SecsModel.Props.C02
import SecsModel.Props.C03
import SecsModel.Props.C04
import SecsModel.Props.C05
import SecsModel.Props.C06
import SecsModel.Props.C07
import SecsModel.Props.C08
import SecsModel.Props.C09
import SecsModel.Props.C10
import SecsModel.Props.C11
import SecsModel.Props.C12
import SecsModel.Props.C13
import SecsModel.Props.C14
import SecsModel.Props.C15
import SecsModel.Props.C16
import SecsModel.Props.C17
import SecsModel.Props.C18
import SecsModel.Props.C19
