/-
C15 — declared item sizes [n], [a..b], [a..], [..b] are enforced.

The size token's text is read back exactly as the numbers written (`bounds_exact`,
`bounds_range`, `bounds_from`, `bounds_upto`: via the proved decimal print/parse round trip,
for every a, b < 2^63); a literal item raises the size error iff its element count lies outside
the declared bounds (`size_error_iff`); an ASCII variable keeps the bounds (`ascii_var_keeps`),
prints them back (`printed_bounds`) and a fill is accepted iff the string length lies inside
them and the string is 7-bit and within the limit (`fill_enforces`).
Bounds of 2^63 and more: `Atoi` clamps them to 2^63−1 (`bounds_exact_any`, `bounds_range_any`,
`bounds_from_any`, `bounds_upto_any`: for EVERY a, b the bounds read are min(·, 2^63−1)); no item
can have that many elements, so the verdict is the mathematical one whatever was written
(`verdict_exact_any`, `verdict_range_any`, `verdict_from_any`, `verdict_upto_any`: for every
element count below 2^63−1 — an item has at most 16,777,215 — the size check passes iff the count
lies within the bounds AS WRITTEN); the clamped value is what an ASCII variable then prints back
(observation recorded in DESIGN §6.15).
-/
import SecsModel.Proofs.Decimal
import SecsModel.Proofs.Scanners
import SecsModel.Generated.Facts
import SecsModel.Model.Parser
import SecsModel.Model.Print
import SecsModel.Proofs.FillLeaf
-- the name grammar and the bounds as tied to the source (`C12.facts_name_patterns`) are checked with this property too
import SecsModel.Props.C12
namespace Secs.C15
open Secs Secs.Sml Secs.Strconv

theorem indexOf_digits (ds : Bytes) (h : ∀ c ∈ ds, 48 ≤ c ∧ c ≤ 57) : Lex.indexOf (· == 46) ds = none := by
  have := Lex.indexOf_append (· == 46) [] ds (fun c hc => by have := h c hc; simp; omega)
  simpa [Lex.indexOf] using this

theorem indexOf_digits_then (b : Nat) (hb : b < 48 ∨ 57 < b) (ds tail : Bytes) (h : ∀ c ∈ ds, 48 ≤ c ∧ c ≤ 57) :
    Lex.indexOf (· == b) (ds ++ b :: tail) = some ds.length := by
  rw [Lex.indexOf_append _ _ ds (fun c hc => by have := h c hc; simp; omega)]
  simp [Lex.indexOf]

theorem inner_of (body : Bytes) : ((91 :: body ++ [93]).drop 1).take ((91 :: body ++ [93]).length - 2) = body := by
  simp

theorem sizeBounds_single (ds : Bytes) (h : ∀ c ∈ ds, 48 ≤ c ∧ c ≤ 57) :
    sizeBounds (91 :: ds ++ [93]) = ((atoi ds).val, (atoi ds).val) := by
  simp only [sizeBounds, inner_of, indexOf_digits ds h]

/-- a size token with dots: `Atoi` of the text before them, and of the text after them unless that
is no number at all (nothing is written there: no upper bound) -/
theorem sizeBounds_dots (lo hi : Bytes) (h : ∀ c ∈ lo, 48 ≤ c ∧ c ≤ 57) :
    sizeBounds (91 :: (lo ++ 46 :: 46 :: hi) ++ [93]) =
      ((atoi lo).val, if (atoi hi).err == some .syntax then -1 else (atoi hi).val) := by
  simp only [sizeBounds, inner_of, indexOf_digits_then 46 (by decide) lo (46 :: hi) h]
  simp

/-- the size error is raised iff the element count is outside the declared bounds -/
theorem size_error_iff (size lo hi : Int) :
    sizeOk size lo hi = false ↔ (if hi = -1 then size < lo else (size < lo ∨ hi < size)) := by
  fun_cases sizeOk size lo hi <;> simp_all <;> omega

/-- an ASCII variable keeps the declared bounds in the template -/
theorem ascii_var_keeps (n : Name) (lo hi : Int) (t : Tmpl) (h : mkAsciiVar n lo hi = some t) :
    t = .asciiVar n lo hi := by
  revert h
  fun_cases mkAsciiVar n lo hi <;> intro h <;> cases h <;> rfl

/-- … prints them back in one of the four forms … -/
theorem printed_bounds (mn mx : Int) :
    printSizeBounds mn mx =
      if mn = 0 ∧ mx = -1 then []
      else if mn = mx then [91] ++ intDec mx ++ [93]
      else if mx = -1 then [91] ++ intDec mn ++ [46, 46, 93]
      else [91] ++ intDec mn ++ [46, 46] ++ intDec mx ++ [93] := by
  fun_cases printSizeBounds mn mx <;> simp_all

/-- … and a fill is accepted iff the string's length lies inside them (and the string is a
valid ASCII item) -/
theorem fill_enforces (n : Name) (mn mx : Int) (env : Env) (s : Bytes) (h : env.get? n = some (.str s)) :
    (fillLeaf (.asciiVar n mn mx) env).isSome = true ↔
      (mn ≤ s.length ∧ (mx = -1 ∨ (s.length : Int) ≤ mx) ∧ (mkAscii s).isSome = true) := by
  rw [FillLeaf.fill_ascii_var n mn mx env s h]
  by_cases hc : (s.length : Int) < mn ∨ (mx ≠ -1 ∧ mx < (s.length : Int))
  · rw [if_pos hc]
    simp only [Option.isSome_none, Bool.false_eq_true, false_iff, not_and]
    intro h1 h2
    omega
  · rw [if_neg hc]
    constructor
    · intro h3; exact ⟨by omega, by omega, h3⟩
    · intro h3; exact h3.2.2

/-! ### bounds of any magnitude: clamped by `Atoi`, verdict unchanged -/

/-- 2^63 − 1, the value `Atoi` clamps to -/
def clampMax : Nat := 2 ^ 63 - 1

/-- the upper bound is never read as "no limit": a range error is not a syntax error -/
theorem atoi_decDigits_not_syntax (b : Nat) : ((atoi (decDigits b)).err == some NumErr.syntax) = false := by
  rw [atoi_decDigits_total]; split <;> rfl

/-- `[a]` for EVERY a -/
theorem bounds_exact_any (a : Nat) :
    sizeBounds (91 :: decDigits a ++ [93]) = (((min a clampMax : Nat) : Int), ((min a clampMax : Nat) : Int)) := by
  rw [sizeBounds_single _ (decDigits_spec a).1, atoi_decDigits_val]
  rfl

/-- `[a..b]` for EVERY a, b -/
theorem bounds_range_any (a b : Nat) :
    sizeBounds (91 :: (decDigits a ++ 46 :: 46 :: decDigits b) ++ [93]) =
      (((min a clampMax : Nat) : Int), ((min b clampMax : Nat) : Int)) := by
  rw [sizeBounds_dots _ _ (decDigits_spec a).1, atoi_decDigits_val, atoi_decDigits_val, atoi_decDigits_not_syntax]
  rfl

/-- `[a..]` for EVERY a -/
theorem bounds_from_any (a : Nat) :
    sizeBounds (91 :: (decDigits a ++ [46, 46]) ++ [93]) = (((min a clampMax : Nat) : Int), (-1 : Int)) := by
  rw [sizeBounds_dots _ [] (decDigits_spec a).1, atoi_decDigits_val]
  rfl

/-- `[..b]` for EVERY b -/
theorem bounds_upto_any (b : Nat) :
    sizeBounds (91 :: (46 :: 46 :: decDigits b) ++ [93]) = ((0 : Int), ((min b clampMax : Nat) : Int)) := by
  rw [show (46 :: 46 :: decDigits b : Bytes) = [] ++ 46 :: 46 :: decDigits b from rfl, sizeBounds_dots [] _ (by simp),
    atoi_decDigits_val, atoi_decDigits_not_syntax]
  rfl

theorem clamp_small (a : Nat) (ha : a < 2 ^ 63) : min a clampMax = a := by unfold clampMax; omega

/-- `[a]` -/
theorem bounds_exact (a : Nat) (ha : a < 2 ^ 63) : sizeBounds (91 :: decDigits a ++ [93]) = ((a : Int), (a : Int)) := by
  rw [bounds_exact_any, clamp_small a ha]

/-- `[a..b]` -/
theorem bounds_range (a b : Nat) (ha : a < 2 ^ 63) (hb : b < 2 ^ 63) :
    sizeBounds (91 :: (decDigits a ++ 46 :: 46 :: decDigits b) ++ [93]) = ((a : Int), (b : Int)) := by
  rw [bounds_range_any, clamp_small a ha, clamp_small b hb]

/-- `[a..]` : no upper bound -/
theorem bounds_from (a : Nat) (ha : a < 2 ^ 63) :
    sizeBounds (91 :: (decDigits a ++ [46, 46]) ++ [93]) = ((a : Int), (-1 : Int)) := by
  rw [bounds_from_any, clamp_small a ha]

/-- `[..b]` : lower bound 0 -/
theorem bounds_upto (b : Nat) (hb : b < 2 ^ 63) :
    sizeBounds (91 :: (46 :: 46 :: decDigits b) ++ [93]) = ((0 : Int), (b : Int)) := by
  rw [bounds_upto_any, clamp_small b hb]

theorem sizeOk_nat (size lo hi : Nat) : sizeOk (size : Int) (lo : Int) (hi : Int) = decide (lo ≤ size ∧ size ≤ hi) := by
  unfold sizeOk
  have hne : ((hi : Int) == -1) = false := by rw [beq_eq_false_iff_ne]; omega
  simp only [hne, Bool.false_eq_true, if_false]
  by_cases h : lo ≤ size ∧ size ≤ hi
  · simp [h]
  · simp only [h, decide_false, Bool.and_eq_false_iff, decide_eq_false_iff_not]
    omega

theorem sizeOk_nat_open (size lo : Nat) : sizeOk (size : Int) (lo : Int) (-1) = decide (lo ≤ size) := by
  unfold sizeOk
  by_cases h : lo ≤ size
  · simp [h]
  · simp [h]; omega

theorem clamp_le (a size : Nat) (hs : size < clampMax) : min a clampMax ≤ size ↔ a ≤ size := by
  unfold clampMax at *; omega

theorem le_clamp (b size : Nat) (hs : size < clampMax) : size ≤ min b clampMax ↔ size ≤ b := by
  unfold clampMax at *; omega

/-- **the verdict is the mathematical one whatever was written**: for every element count an
item can have (anything below 2^63 − 1; items have at most 16,777,215 elements) the size check
on `[a]` passes iff the count is a — for EVERY a, also one that `Atoi` clamps -/
theorem verdict_exact_any (a size : Nat) (hs : size < clampMax) :
    sizeOk size (sizeBounds (91 :: decDigits a ++ [93])).1 (sizeBounds (91 :: decDigits a ++ [93])).2 = decide (size = a) := by
  rw [bounds_exact_any, sizeOk_nat]
  apply decide_eq_decide.mpr
  rw [clamp_le a size hs, le_clamp a size hs]
  omega

/-- `[a..b]`: passes iff a ≤ count ≤ b -/
theorem verdict_range_any (a b size : Nat) (hs : size < clampMax) :
    sizeOk size (sizeBounds (91 :: (decDigits a ++ 46 :: 46 :: decDigits b) ++ [93])).1
      (sizeBounds (91 :: (decDigits a ++ 46 :: 46 :: decDigits b) ++ [93])).2 = decide (a ≤ size ∧ size ≤ b) := by
  rw [bounds_range_any, sizeOk_nat]
  apply decide_eq_decide.mpr
  rw [clamp_le a size hs, le_clamp b size hs]

/-- `[a..]`: passes iff a ≤ count -/
theorem verdict_from_any (a size : Nat) (hs : size < clampMax) :
    sizeOk size (sizeBounds (91 :: (decDigits a ++ [46, 46]) ++ [93])).1
      (sizeBounds (91 :: (decDigits a ++ [46, 46]) ++ [93])).2 = decide (a ≤ size) := by
  rw [bounds_from_any, sizeOk_nat_open]
  apply decide_eq_decide.mpr
  rw [clamp_le a size hs]

/-- `[..b]`: passes iff count ≤ b -/
theorem verdict_upto_any (b size : Nat) (hs : size < clampMax) :
    sizeOk size (sizeBounds (91 :: (46 :: 46 :: decDigits b) ++ [93])).1
      (sizeBounds (91 :: (46 :: 46 :: decDigits b) ++ [93])).2 = decide (size ≤ b) := by
  rw [bounds_upto_any]
  have := sizeOk_nat size 0 (min b clampMax)
  simp only [Int.natCast_zero] at this
  rw [this]
  apply decide_eq_decide.mpr
  rw [le_clamp b size hs]
  omega

/-- non-vacuity (a test): a bound of 2^64 + 5 is read as 2^63 − 1, and an item of 3 elements is
refused by `[18446744073709551621]` and accepted by `[..18446744073709551621]` -/
example : sizeBounds (str "[18446744073709551621]") = (9223372036854775807, 9223372036854775807) ∧
    sizeOk 3 9223372036854775807 9223372036854775807 = false ∧
    sizeBounds (str "[..18446744073709551621]") = (0, 9223372036854775807) := by decide +kernel

/-! ### tie to the source: the accept sets of lexDataItemSize -/

theorem facts_size_lexer :
    (Generated.lexAcceptSets.take 10) = [("lexDataItemSize.accept", "["),
      ("lexDataItemSize.acceptRun", " \x09\x0d\x0a"), ("lexDataItemSize.accept", "0123456789"),
      ("lexDataItemSize.acceptRun", "0123456789"), ("lexDataItemSize.acceptRun", " \x09\x0d\x0a"),
      ("lexDataItemSize.acceptRun", " \x09\x0d\x0a"), ("lexDataItemSize.accept", "0123456789"),
      ("lexDataItemSize.acceptRun", "0123456789"), ("lexDataItemSize.acceptRun", " \x09\x0d\x0a"),
      ("lexDataItemSize.accept", "]")] := by decide

/-! ### non-vacuity -/

example : sizeBounds (str "[2..7]") = (2, 7) ∧ sizeBounds (str "[3..]") = (3, -1) ∧
    sizeBounds (str "[..4]") = (0, 4) ∧ sizeBounds (str "[5]") = (5, 5) := by decide +kernel

end Secs.C15
