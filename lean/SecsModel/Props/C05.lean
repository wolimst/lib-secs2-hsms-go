/-
C05 — SML literals denote exactly the values stored (no silent substitution).

For every value token of an array item (`arrayArg`), over all token texts: either the argument
handed to the factory is exactly the value the conversion routine returned without error, or
an error is recorded — there is no branch that substitutes a default (0, clamped value,
placeholder) silently (`no_silent_*`). With C06 `all_or_nothing` an error means no message.
The conversion routines are the models of strconv.ParseInt/ParseUint/ParseFloat (Model/Strconv,
Model/FloatLib: library behaviour, cross-checked against the Go standard library on every run);
the denotation of every INTEGER literal form is proved outright: hexadecimal `0x`/`0X`, binary
`0b`/`0B`, octal `0o`/`0O` and the leading-zero spelling, decimal, each with an optional sign —
ParseUint/ParseInt with base 0 return exactly the number the digits denote in that base when it
fits the item's width (`literals_denote_unsigned`, `literals_denote_signed`, `decimal_denotes`).
Float literals: ParseFloat is a library parameter (cross-checked), not proved.
ASCII items: characters are taken as written between the quotes, character codes must be below
128, anything else records an error (`ascii_*`).
-/
import SecsModel.Proofs.Decimal
import SecsModel.Proofs.Literals
import SecsModel.Model.Parser
import SecsModel.Generated.Facts
namespace Secs.C05
open Secs Secs.Sml Secs.Lex Secs.Strconv

theorem err_grows (s : PS) (t : Tok) (k : String) : (s.err t k).errs.length = s.errs.length + 1 := by
  simp [PS.err]

theorem err_recorded {g0 g : GoVal} {s s' : PS} {t : Tok} {k : String} (h : some (g0, s.err t k) = some (g, s')) :
    s'.errs.length = s.errs.length + 1 := by
  injection h with h; injection h with _ hs
  rw [← hs]; exact err_grows _ _ _

theorem numErr_cases (err : Option NumErr) (rm sm : String) (g g' : GoVal) (s s' : PS) (t : Tok)
    (h : (match numErrKind err rm sm with
      | some k => some (g, s.err t k)
      | none => some (g, s)) = some (g', s')) :
    (s'.errs = s.errs ∧ err = none ∧ g' = g) ∨ s'.errs.length = s.errs.length + 1 := by
  cases err with
  | none =>
    simp only [numErrKind] at h
    injection h with h; injection h with hg hs
    exact Or.inl ⟨hs ▸ rfl, rfl, hg.symm⟩
  | some e =>
    cases e <;> exact Or.inr (err_recorded h)

theorem twoByte_ne_B_BOOLEAN (a d : Nat) : (([a, d] : Bytes) == [66]) = false ∧
    (([a, d] : Bytes) == [66, 79, 79, 76, 69, 65, 78]) = false := by simp

/-- signed integer items: the stored value is ParseInt's value, or an error is recorded -/
theorem no_silent_int (w : Nat) (d : Nat) (s s' : PS) (t : Tok) (g : GoVal) (hk : t.kind = .number)
    (h : arrayArg [73, d] w s t = some (g, s')) :
    (s'.errs = s.errs ∧ (parseInt t.val 0 (8 * w)).err = none ∧ g = .sint 64 (parseInt t.val 0 (8 * w)).val) ∨
    s'.errs.length = s.errs.length + 1 := by
  simp only [arrayArg, hk, twoByte_ne_B_BOOLEAN, List.head?_cons, Option.some_beq_some, Nat.reduceBEq, Bool.false_eq_true,
    ↓reduceIte] at h
  exact numErr_cases _ _ _ _ _ _ _ _ h

/-- unsigned integer items -/
theorem no_silent_uint (w : Nat) (d : Nat) (s s' : PS) (t : Tok) (g : GoVal) (hk : t.kind = .number)
    (h : arrayArg [85, d] w s t = some (g, s')) :
    (s'.errs = s.errs ∧ (parseUint t.val 0 (8 * w)).err = none ∧ g = .uint 64 (parseUint t.val 0 (8 * w)).val) ∨
    s'.errs.length = s.errs.length + 1 := by
  simp only [arrayArg, hk, twoByte_ne_B_BOOLEAN, List.head?_cons, Option.some_beq_some, Nat.reduceBEq, Bool.false_eq_true,
    ↓reduceIte] at h
  exact numErr_cases _ _ _ _ _ _ _ _ h

/-- binary items: the value is ParseInt's and lies in 0..255, or an error is recorded -/
theorem no_silent_binary (w : Nat) (s s' : PS) (t : Tok) (g : GoVal) (hk : t.kind = .number)
    (h : arrayArg [66] w s t = some (g, s')) :
    (s'.errs = s.errs ∧ (parseInt t.val 0 0).err ≠ some .syntax ∧ 0 ≤ (parseInt t.val 0 0).val ∧
      (parseInt t.val 0 0).val < 256 ∧ g = .sint 0 (parseInt t.val 0 0).val) ∨
    s'.errs.length = s.errs.length + 1 := by
  have h1 : (([66] : Bytes) == [66]) = true := by decide
  simp only [arrayArg, hk, h1, if_true] at h
  by_cases hs : ((parseInt t.val 0 0).err == some NumErr.syntax) = true
  · simp only [hs, if_true] at h
    exact Or.inr (err_recorded h)
  · simp only [hs, Bool.false_eq_true, if_false] at h
    by_cases hr : (!(decide (0 ≤ (parseInt t.val 0 0).val) && decide ((parseInt t.val 0 0).val < 256))) = true
    · simp only [hr, if_true] at h
      exact Or.inr (err_recorded h)
    · simp only [hr, Bool.false_eq_true, if_false] at h
      injection h with h; injection h with hg hs'
      left
      simp only [Bool.not_eq_true', Bool.and_eq_false_iff, decide_eq_false_iff_not, not_or, Decidable.not_not] at hr
      refine ⟨hs' ▸ rfl, by intro hc; rw [hc] at hs; exact hs rfl, hr.1, hr.2, hg.symm⟩

/-- float items: the stored pattern is ParseFloat's, or an error is recorded -/
theorem no_silent_float (w : Nat) (d : Nat) (s s' : PS) (t : Tok) (g : GoVal) (hk : t.kind = .number)
    (h : arrayArg [70, d] w s t = some (g, s')) :
    (s'.errs = s.errs ∧ ∃ b, FloatLib.parseFloat w t.val = .ok b ∧ g = (if w == 4 then .f32 b else .f64 b)) ∨
    s'.errs.length = s.errs.length + 1 := by
  simp only [arrayArg, hk, twoByte_ne_B_BOOLEAN, List.head?_cons, Option.some_beq_some, Nat.reduceBEq, Bool.false_eq_true,
    ↓reduceIte] at h
  cases hp : FloatLib.parseFloat w t.val
  case ok b =>
    simp only [hp] at h
    injection h with h; injection h with hg hs
    left; exact ⟨hs ▸ rfl, b, rfl, hg.symm⟩
  all_goals
    simp only [hp] at h
    exact Or.inr (err_recorded h)

/-- a token of the wrong kind for the item (a string in a number item, a boolean in an integer
item, …) stops the message with an error -/
theorem wrong_kind_is_error (ty : Bytes) (w : Nat) (t : Tok) (r : List Tok) (s : PS)
    (h : arrayArg ty w s t = none) (hk : (t.kind == Kind.error) = false) :
    arrayArgs ty w (t :: r) s = (none, s.err t (expectKind ty)) := by
  simp [arrayArgs, hk, h]

/-- a decimal literal denotes its number: Atoi of the decimal digits of n is n (n < 2^63) -/
theorem decimal_denotes (n : Nat) (h : n < 2 ^ 63) : atoi (decDigits n) = ⟨n, none⟩ := atoi_decDigits n h

/-- every unsigned integer literal form denotes the number its digits spell in its base
(`litVal`), and that is what ParseUint with base 0 returns when it fits `bits` bits -/
theorem literals_denote_unsigned (bits : Nat) (c : Nat) (r : Bytes) (value : Nat)
    (hfit : value ≤ 2 ^ (if (bits == 0) = true then 64 else bits) - 1) :
    (∀ x, (x = 120 ∨ x = 88) → digitsOf 16 (c :: r) → litVal 16 (c :: r) = value → parseUint (48 :: x :: c :: r) 0 bits = ⟨value, none⟩) ∧
    (∀ x, (x = 98 ∨ x = 66) → digitsOf 2 (c :: r) → litVal 2 (c :: r) = value → parseUint (48 :: x :: c :: r) 0 bits = ⟨value, none⟩) ∧
    (∀ x, (x = 111 ∨ x = 79) → digitsOf 8 (c :: r) → litVal 8 (c :: r) = value → parseUint (48 :: x :: c :: r) 0 bits = ⟨value, none⟩) ∧
    (digitsOf 8 (c :: r) → litVal 8 (c :: r) = value → parseUint (48 :: c :: r) 0 bits = ⟨value, none⟩) ∧
    (49 ≤ c ∧ c ≤ 57 → digitsOf 10 (c :: r) → litVal 10 (c :: r) = value → parseUint (c :: r) 0 bits = ⟨value, none⟩) :=
  uint_literal_denotes bits c r value hfit

/-- … and with a sign in front: `+v` and `v` when v < 2^(bits-1), `-v` when v ≤ 2^(bits-1) -/
theorem literals_denote_signed (u : Bytes) (bits B v : Nat) (hB : (if (bits == 0) = true then 64 else bits) = B)
    (hu : parseUint u 0 bits = ⟨v, none⟩) (hne : u ≠ []) (hfirst : ∀ c r, u = c :: r → c ≠ 43 ∧ c ≠ 45) :
    (v < 2 ^ (B - 1) → parseInt u 0 bits = ⟨v, none⟩ ∧ parseInt (43 :: u) 0 bits = ⟨v, none⟩) ∧
    (v ≤ 2 ^ (B - 1) → parseInt (45 :: u) 0 bits = ⟨-(v : Int), none⟩) :=
  int_literal_denotes u bits B v hB hu hne hfirst

/-- ASCII: the characters between the quotes are taken as they are written -/
theorem ascii_quoted_exact (mn mx : Int) (n : Nat) (t : Tok) (lit : Bytes) (s : PS) (hk : t.kind = .quoted)
    (hall : ((t.val.drop 1).take (t.val.length - 2)).all (· < 128) = true) :
    asciiLoop mn mx n [t] lit s = (ofFactory (mkAscii (lit ++ (t.val.drop 1).take (t.val.length - 2))), s) := by
  rw [asciiLoop]
  simp only [hk, hall, if_true]
  rw [asciiLoop]

/-- ASCII: a non-ASCII character between the quotes records an error -/
theorem ascii_non_ascii_is_error (mn mx : Int) (n : Nat) (t : Tok) (lit : Bytes) (s : PS) (hk : t.kind = .quoted)
    (hall : ((t.val.drop 1).take (t.val.length - 2)).all (· < 128) = false) :
    (asciiLoop mn mx n [t] lit s).2.errs.length = s.errs.length + 1 := by
  rw [asciiLoop]
  simp only [hk, hall, Bool.false_eq_true, if_false]
  rw [asciiLoop]
  exact err_grows _ _ _

/-! ### tie to the source: the digit sets of lexNumber -/

theorem facts_number_lexer :
    (Generated.lexAcceptSets.drop 11) = [("lexNumber.accept", "+-"), ("lexNumber.accept", "0"),
      ("lexNumber.accept", "xX"), ("lexNumber.accept", "bB"), ("lexNumber.accept", "oO"),
      ("lexNumber.accept", "."), ("lexNumber.accept", "eE"), ("lexNumber.accept", "+-"),
      ("lexNumber.acceptRun", "0123456789")] := by decide

/-! ### non-vacuity -/

example : (arrayArg [73, 49] 1 { toks := [] } ⟨.number, str "-128", 1, 1, none⟩).map (·.2.errs.length) = some 0 := by
  decide +kernel

example : (arrayArg [73, 49] 1 { toks := [] } ⟨.number, str "128", 1, 1, none⟩).map (·.2.errs.length) = some 1 := by
  decide +kernel

end Secs.C05
