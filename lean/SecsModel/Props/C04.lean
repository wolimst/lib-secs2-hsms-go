/-
C04 — SML print→parse round trip: printed messages re-parse to the same message.

This property is decided, on every run, by the round-trip oracle on the real code (print,
parse, compare fields / variables / printed form / bytes once completed; every ASCII character;
fixed point of accepted texts) and by comparing parser and printer with the Lean model on the
same texts. As theorems this file proves the pieces the round trip rests on:
 * integers are printed in plain decimal and a decimal literal denotes its number
   (`decimal_roundtrip`);
 * the ASCII printer writes every character either inside quotes or as a two-digit hex code,
   never a raw `"`, control character or DEL inside quotes (`ascii_quote_safe`), and the parser
   takes the text between the quotes as it is (C05 `ascii_quoted_exact`);
 * the header printer and the header fields (`header_shape`).
**The round trip** (`print_parse`): for every valid message whose name the header lexer reads as
one name (`NameOK`; `nameOK_of_simple` gives a sufficient condition) and whose item is absent, or
well formed, free of floats and error placeholders, with ASCII bounds that fit a Go int,
variable names that are not keywords (`namesPlainT`) and ellipses numbered in order of appearance
(what the parser itself assigns), `parse (print m)` is exactly the one message `m` — same name,
stream, function, wait bit, direction, item tree and variables; unaddressed, since the printed
form does not carry the session — with no error and no warning. It is the composition of
 * the lexer half `print_lex_tokens`: the printed form is lexed into the token stream `msgToks m`
   (positions aside) — every token kind of the printed form is lexed as itself, for all values,
   strings, names, nestings and indentations (`Proofs/LexPrinted`, `Proofs/LexPrintedItems`);
 * the parser half `print_parse_tokens` (any number of messages at once): that token stream
   parses to exactly these messages; the printed numbers read back by theorems of their own
   (`parseInt_intDec`, `parseUint_decDigits`, `parseInt_bin`, `parseUint_hexcode`);
 * `positions_irrelevant`: the parser does not look at positions.
`print_parse_partial`, what is not covered: float items — the law `parseFloat (fmtG b) = b` is a
property of the library routines (shortest round trip), validated by sweep against strconv, not
proved — and the converse direction (printing each message of an accepted text and parsing it
again is a fixed point), which is decided on the real code on every run.
-/
import SecsModel.Proofs.Decimal
import SecsModel.Model.Print
import SecsModel.Model.Parser
import SecsModel.Proofs.PrintToks
import SecsModel.Proofs.LexPrintedItems
import SecsModel.Proofs.ParserNat
import SecsModel.Proofs.LexLayout
import SecsModel.Generated.Facts
namespace Secs.C04
open Secs Secs.Sml Secs.Strconv

theorem decimal_roundtrip (n : Nat) (h : n < 2 ^ 63) : atoi (decDigits n) = ⟨n, none⟩ := atoi_decDigits n h

/-- what is written between quotes: never a quote, a control character or DEL -/
def quotable (ch : Nat) : Bool := !asciiIsCode ch

/-- reads the printed body of an ASCII item back: a quoted run as it is, a ` 0xNN` code as the
character (`inQ`: inside quotes); `none` on anything the printer does not write -/
def unprint : Bool → Bytes → Option Bytes
  | inQ, [] => if inQ then none else some []
  | true, 34 :: r => unprint false r
  | true, c :: r => (unprint true r).map (c :: ·)
  | false, 32 :: 34 :: r => unprint true r
  | false, 32 :: 48 :: 120 :: h :: l :: r =>
    let hv (d : Nat) : Nat := if d ≥ 65 then d - 55 else d - 48
    (unprint false r).map ((hv h * 16 + hv l) :: ·)
  | false, _ => none

def hexVal (d : Nat) : Nat := if d ≥ 65 then d - 55 else d - 48

/-- the two-digit hex code of a character reads back as the character (all 128 characters) -/
theorem hex2_decode : ∀ ch : Fin 128,
    hexVal ((hex2 ch.val).getD 0 0) * 16 + hexVal ((hex2 ch.val).getD 1 0) = ch.val := by decide +kernel

/-- header: S<stream>F<function>, then W / [W], the direction, the name -/
theorem header_shape (m : Msg) :
    m.header = [83] ++ intDec m.stream ++ [70] ++ intDec m.function
      ++ (if m.waitBit == 1 then [32, 87] else if m.waitBit == 2 then [32, 91, 87, 93] else [])
      ++ [32] ++ m.direction ++ (if m.name.isEmpty then [] else 32 :: m.name) := by
  rw [Msg.header, str_W, str_optW]

/-- the printer never writes a character that needs a code inside quotes -/
theorem ascii_quote_safe (ch : Nat) : asciiIsCode ch = true ↔ (ch < 32 ∨ ch = 127 ∨ ch = 34) := by
  simp [asciiIsCode, or_assoc]

/-- tie to the source: the lexer patterns the printed tokens must match -/
theorem facts_patterns :
    Generated.regexps.drop 2 = [("sml.lexMessageHeader", "^[Ss]\\d+[Ff]\\d+"),
      ("sml.lexMessageHeader", "^([Ww]|\\[[Ww]\\])"),
      ("sml.lexMessageHeader", "^[Hh](->|<->|<-)[Ee]"),
      ("sml.lexMessageText", "^\\.\\.\\.(\\[\\d+\\])?"),
      ("sml.lexMessageText", "^[A-Za-z_]\\w*"),
      ("sml.lexMessageText", "^(\\[\\d+\\])+")] := by decide

/-! ### non-vacuity (tests): print → parse on a message with every item kind, a quote and a
backslash in a string, a variable, an ASCII variable with bounds and an ellipsis -/

def sample : Msg :=
  ⟨[78], 6, 11, 2, dirEH,
   .list (.item (.ascii [97, 34, 92, 98, 10]) (.item (.uint 2 [.val 65535, .var [120]])
     (.item (.asciiVar [118] 2 5) (.item (.int 1 [.val (-128)]) (.item (.boolean [.val true])
     (.item (.binary [.val 255]) (.var [46, 46, 46, 91, 48, 93] .nil))))))),
   -1, [0, 0, 0, 0]⟩

/-- **Parser half of the print → parse round trip**, for any number of messages at once. -/
theorem print_parse_tokens (ms : List Msg)
    (h : ∀ m ∈ ms, m.valid = true ∧
      (m.item = .empty ∨ (m.item.wf = true ∧ cleanT m.item = true ∧ ∃ e, ellAfter 0 m.item = some e))) :
    parseToks (ms.flatMap msgToks ++ [eofTok]) = .done (ms.map unaddressed) [] [] := by
  exact parseToks_printed ms (fun m hm => ⟨(h m hm).1, itemOK_of_wf m.item (h m hm).2⟩)

/-- **Lexer half**: the printed form of a message is lexed into `msgToks` (positions aside). -/
theorem print_lex_tokens (ual : List Nat) (m : Msg) (hv : m.valid = true) (hname : NameOK m.name)
    (hit : m.item = .empty ∨ (m.item.wf = true ∧ cleanT m.item = true ∧ namesPlainT m.item = true)) :
    (Lex.lexAll ual m.print).map Lex.eraseT = msgToks m ++ [eofTok] :=
  lex_message ual m hv hname hit

/-- **The print → parse round trip**: parsing the printed form of a message gives exactly one
message, equal to the original in name, stream, function, wait bit, direction and item tree
(unaddressed: the printed form does not carry the session), no error and no warning.
For every valid message whose name the header lexer reads as one name and whose item is
absent, or well formed, free of floats and error placeholders, with ASCII bounds that fit a Go
int, variable names that are not keywords, and ellipses numbered in order of appearance. -/
theorem print_parse (ual : List Nat) (m : Msg) (hv : m.valid = true) (hname : NameOK m.name)
    (hit : m.item = .empty ∨ (m.item.wf = true ∧ cleanT m.item = true ∧ namesPlainT m.item = true ∧
      ∃ e, ellAfter 0 m.item = some e)) :
    parse ual m.print = .done [unaddressed m] [] [] := by
  simpa [printAll] using parse_printAll ual [] nofun [m] (List.forall_mem_singleton.2 ⟨hv, hname, hit⟩)

/-- non-vacuity: the sample message (every item kind but floats, a name, a variable with bounds,
an ellipsis) meets all hypotheses of `print_parse`, so for it `parse (print m) = [m]` is a theorem -/
example : parse [] sample.print = .done [unaddressed sample] [] [] :=
  print_parse [] sample (by decide +kernel) (nameOK_of_simple 78 [] (by decide) (by simp) (by decide))
    (Or.inr ⟨by decide +kernel, by decide +kernel, by decide +kernel, ⟨1, by decide +kernel⟩⟩)

/-- the printed numbers read back as themselves -/
theorem printed_numbers_read_back :
    (∀ (v : Int) (w : Nat), (w = 1 ∨ w = 2 ∨ w = 4 ∨ w = 8) → -((2 ^ (8 * w - 1) : Nat) : Int) ≤ v →
        v < ((2 ^ (8 * w - 1) : Nat) : Int) → parseInt (intDec v) 0 (8 * w) = ⟨v, none⟩) ∧
    (∀ n : Nat, n < 2 ^ 63 → parseInt ([48, 98] ++ binDigits n) 0 0 = ⟨n, none⟩) ∧
    (∀ ch : Fin 128, parseUint ([48, 120] ++ hex2 ch.val) 0 0 = ⟨ch.val, none⟩) :=
  ⟨fun v w hw h1 h2 => parseInt_intDec v w hw h1 h2, fun n h => parseInt_bin n h, fun ch => by
    have := parseUint_hexcode ch; simpa [hex2] using this⟩

/-- non-vacuity: the sample message meets the hypotheses of the parser half -/
example : sample.valid = true ∧ sample.item.wf = true ∧ cleanT sample.item = true ∧
    ellAfter 0 sample.item = some 1 := by decide +kernel

/-- test, by kernel evaluation: the two halves meet on the sample — the lexer turns the printed
form into the token stream of the parser half (positions aside) -/
example : ((Lex.lexAll [] sample.print).map Lex.eraseT).filter (fun t => t.kind != .comment) =
    msgToks sample ++ [eofTok] := by decide +kernel

example : (match parse [] sample.print with
    | .done [m] [] [] => m.print == sample.print && m.item.vars == sample.item.vars
    | _ => false) = true := by decide +kernel

end Secs.C04
