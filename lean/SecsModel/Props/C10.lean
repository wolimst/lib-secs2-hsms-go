/-
C10 — ellipsis expansion repeats, renames and renumbers as documented.

Proved on the model of `fillEllipsis` (whose agreement with the code's loop-with-restart is tied
by the correspondence run on every small and many random templates):
 * one pass over a group of slots emits exactly one argument per slot (`emit_length`), so
   filling an ellipsis at position p with n > 0 emits the p items before it n+1 times
   (`repeat_length`) and the list gets (n+1)·p + (len − p − 1) elements (`count_law`);
   n = 0 only removes the ellipsis (`zero_removes`);
 * a variable in copy j gets the suffix `[j]` appended after the suffixes of the enclosing
   expanded ellipses, outermost first (`suffix_order`); ellipsis names are never suffixed but
   renumbered with a running counter when several remain (`ellipsis_renumbered`);
 * copy j of the repeated group is produced under the index stack `outer ++ [j]`, j = 0 … n
   (`repeat_unfold`), so nested ellipses are expanded in every copy.
 * generated names are unique: suffixing a base name that has no `[` of its own is injective in
   (base name, copy-index stack) (`names_injective`), so distinct (variable, copy) pairs never
   collide (`generated_names_distinct`); the renumbered ellipses `...[k]` are distinct
   (`ellipses_distinct`); for a repeated group of own variables the model emits exactly the
   suffixed names copy by copy (`repeat_emits_copies`) and no name twice (`unique_names_one_level`).
 * **all resulting variable names stay unique, for arbitrary nesting** (`expansion_names_unique`,
   `expansion_well_formed`, `message_expansion_names_unique`): whatever FillVariables returns for a
   well-formed template - any depth, any number of nested ellipses and repeated groups, counts,
   values and well-formed fill-in items in one table - is again well formed: every name valid, at
   most one ellipsis per list and not first, and no name twice anywhere in the tree
   (Proofs/FillWF.lean: well-formedness is an invariant of every factory, of every one-node fill,
   of `emitSlots`/`emitRepeat`/`fillEllT` and of `fill`). What is NOT a theorem is the converse
   direction "an expansion of distinct plain names is never refused for a collision" beyond one
   level (`unique_names_one_level`); a refusal is visible to the caller, a duplicate would not be.
Base names that already carry an index group (`x[1]`) are outside the injectivity lemma — and
indeed collide with generated names (`indexed_base_collides`), which is why the real code refuses
such expansions.
-/
import SecsModel.Model.Fill
import SecsModel.Proofs.EllipsisNames
import SecsModel.Proofs.FillWF
import SecsModel.Props.C12
import SecsModel.Generated.Facts
namespace Secs.C10
open Secs

/-- outermost first: the suffix for `outer ++ [j]` is the outer suffix followed by `[j]` -/
theorem suffix_order (outer : List Nat) (j : Nat) :
    idxSuffix (outer ++ [j]) = idxSuffix outer ++ ([91] ++ decDigits j ++ [93]) := by
  rw [idxSuffix_append]; simp [idxSuffix]

/-- ordinary names get the index suffix of the current stack and nothing else changes -/
theorem name_suffixed (multiple : Bool) (st : FillSt) (n : Name) (h : isEllipsis n = false) :
    newName multiple st n = (n ++ idxSuffix st.stack, st) := by
  simp [newName, h]

/-- ellipsis names: a single remaining ellipsis stays `...`; several are numbered in the order
in which they are met -/
theorem ellipsis_renumbered (st : FillSt) (n : Name) (h : isEllipsis n = true) :
    newName true st n = ([46, 46, 46, 91] ++ decDigits st.count ++ [93], { st with count := st.count + 1 }) ∧
    newName false st n = ([46, 46, 46], st) := by
  simp [newName, h]

-- patterns on the analysed argument only, the rest by `fun`: a pattern over all arguments builds a matcher over each
/-- one pass over a group of slots emits exactly one argument per slot -/
theorem emit_length (child : Tmpl → FillSt → Option (Tmpl × FillSt)) (multiple : Bool) :
    ∀ (xs : Slots) (st : FillSt) (a : List GoVal) (st' : FillSt),
      emitSlots child multiple xs st = some (a, st') → a.length = xs.len
  | .nil => fun st a st' h => by cases h; rfl
  | .var n r => fun st a st' h => by
    simp only [emitSlots, Option.map_eq_some_iff, Prod.exists, Prod.mk.injEq] at h
    obtain ⟨b, s, hr, rfl, rfl⟩ := h
    simp [Slots.len, emit_length child multiple r _ b s hr]
  | .item t r => fun st a st' h => by
    simp only [emitSlots] at h
    split at h
    · cases h
    · simp only [Option.map_eq_some_iff, Prod.exists, Prod.mk.injEq] at h
      obtain ⟨b, s, hr, rfl, rfl⟩ := h
      simp [Slots.len, emit_length child multiple r _ b s hr]

/-- the repeated group: copy j is emitted under the stack `outer ++ [j]` -/
theorem repeat_unfold (child : Tmpl → FillSt → Option (Tmpl × FillSt)) (multiple : Bool) (pre : Slots)
    (outer : List Nat) (reps j count : Nat) :
    emitRepeat child multiple pre outer (reps + 1) j count =
      match emitSlots child multiple pre ⟨outer ++ [j], count⟩ with
      | none => none
      | some (a, st) => (emitRepeat child multiple pre outer reps (j + 1) st.count).map (fun (b, c) => (a ++ b, c)) := rfl

/-- `reps` copies of a group of p slots are reps·p arguments -/
theorem repeat_length (child : Tmpl → FillSt → Option (Tmpl × FillSt)) (multiple : Bool) (pre : Slots)
    (outer : List Nat) :
    ∀ (reps j count : Nat) (a : List GoVal) (c : Nat),
      emitRepeat child multiple pre outer reps j count = some (a, c) → a.length = reps * pre.len
  | 0 => fun j count a c h => by cases h; simp
  | reps + 1 => fun j count a c h => by
    rw [repeat_unfold] at h
    split at h
    · cases h
    · rename_i a1 st1 he
      simp only [Option.map_eq_some_iff, Prod.exists, Prod.mk.injEq] at h
      obtain ⟨b, c', hr, rfl, rfl⟩ := h
      rw [List.length_append, emit_length child multiple pre _ a1 st1 he,
        repeat_length child multiple pre outer reps (j + 1) st1.count b c' hr, Nat.succ_mul]
      omega

/-- count law: an ellipsis at position p of a list of `len` slots filled with n > 0 makes
(n+1)·p + (len − p − 1) arguments for the list factory: the p items before it n+1 times, the
items after it once -/
theorem count_law (child : Tmpl → FillSt → Option (Tmpl × FillSt)) (multiple : Bool) (xs : Slots) (p n : Nat)
    (hp : p < xs.len) (st : FillSt) (a b : List GoVal) (c : Nat) (st' : FillSt)
    (h1 : emitRepeat child multiple (xs.take p) st.stack (n + 1) 0 st.count = some (a, c))
    (h2 : emitSlots child multiple (xs.drop (p + 1)) ⟨st.stack, c⟩ = some (b, st')) :
    (a ++ b).length = (n + 1) * p + (xs.len - p - 1) := by
  rw [List.length_append, repeat_length _ _ _ _ _ _ _ _ _ h1, emit_length _ _ _ _ _ _ h2,
    Slots.take_len xs p (by omega), Slots.drop_len]
  omega

/-- n = 0 just removes the ellipsis: the items before and after it once each -/
theorem zero_removes (child : Tmpl → FillSt → Option (Tmpl × FillSt)) (multiple : Bool) (xs : Slots) (p : Nat)
    (hp : p < xs.len) (st st1 st2 : FillSt) (a b : List GoVal)
    (h1 : emitSlots child multiple (xs.take p) st = some (a, st1))
    (h2 : emitSlots child multiple (xs.drop (p + 1)) st1 = some (b, st2)) :
    (a ++ b).length = xs.len - 1 := by
  rw [List.length_append, emit_length _ _ _ _ _ _ h1, emit_length _ _ _ _ _ _ h2, Slots.take_len xs p (by omega), Slots.drop_len]
  omega

theorem names_injective (n1 n2 : Name) (s1 s2 : List Nat) (h1 : plainName n1 = true) (h2 : plainName n2 = true)
    (h : n1 ++ idxSuffix s1 = n2 ++ idxSuffix s2) : n1 = n2 ∧ s1 = s2 := suffixed_inj n1 n2 s1 s2 h1 h2 h

theorem generated_names_distinct (pairs : List (Name × List Nat)) (hp : ∀ p ∈ pairs, plainName p.1 = true)
    (hn : pairs.Nodup) : (pairs.map (fun p => p.1 ++ idxSuffix p.2)).Nodup := generated_nodup pairs hp hn

theorem ellipses_distinct (a b : Nat)
    (h : ([46, 46, 46, 91] : Bytes) ++ decDigits a ++ [93] = [46, 46, 46, 91] ++ decDigits b ++ [93]) : a = b :=
  ellipsis_names_inj a b h

/-- a group consisting of the list's own variables -/
def varsOnly : List Name → Slots
  | [] => .nil
  | n :: r => .var n (varsOnly r)

theorem emit_varsOnly (child : Tmpl → FillSt → Option (Tmpl × FillSt)) (multiple : Bool) :
    ∀ (names : List Name) (st : FillSt), (∀ x ∈ names, isEllipsis x = false) →
      emitSlots child multiple (varsOnly names) st = some (names.map (fun x => GoVal.str (x ++ idxSuffix st.stack)), st)
  | [] => fun st _ => rfl
  | n :: r => fun st h => by
    have hn := h n (by simp)
    simp only [varsOnly, emitSlots, name_suffixed multiple st n hn,
      emit_varsOnly child multiple r st (fun x hx => h x (by simp [hx])), Option.map_some, List.map_cons]

/-- the repeated group is emitted copy by copy, copy j under the stack `outer ++ [j]` -/
theorem repeat_emits_copies (child : Tmpl → FillSt → Option (Tmpl × FillSt)) (multiple : Bool)
    (names : List Name) (outer : List Nat) (hne : ∀ x ∈ names, isEllipsis x = false) :
    ∀ (reps j count : Nat),
      emitRepeat child multiple (varsOnly names) outer reps j count =
        some ((List.range' j reps).flatMap (fun j => names.map (fun x => GoVal.str (x ++ idxSuffix (outer ++ [j])))), count)
  | 0 => fun _ _ => rfl
  | reps + 1 => fun j count => by
    simp only [emitRepeat, emit_varsOnly child multiple names ⟨outer ++ [j], count⟩ hne,
      repeat_emits_copies child multiple names outer hne reps (j + 1) count, Option.map_some,
      List.range'_succ, List.flatMap_cons]

/-- **One level of expansion never produces a name twice**: n + 1 copies of a group of distinct
plain variable names. -/
theorem unique_names_one_level (names : List Name) (outer : List Nat) (n : Nat)
    (hp : ∀ x ∈ names, plainName x = true) (hn : names.Nodup) :
    ((List.range (n + 1)).flatMap (fun j => names.map (fun x => x ++ idxSuffix (outer ++ [j])))).Nodup :=
  copies_nodup names outer n hp hn

/-- **All resulting variable names stay unique** - for every well-formed template (any depth, any
number of nested ellipses), every table of repeat counts, values, new names and well-formed
fill-in items: if FillVariables returns a tree, no name occurs twice anywhere in it. -/
theorem expansion_names_unique (t t' : Tmpl) (env : Env) (hw : t.wf = true) (henv : Env.itemsWfS env = true)
    (h : t.fill env = some t') : nodupNames t'.vars = true :=
  fill_names_unique t t' env (wfS_of_wf t hw) henv h

/-- … and it is well formed altogether (names valid, one ellipsis per list at most and never
first, sizes within the limit, integer and binary values in range) -/
theorem expansion_well_formed (t t' : Tmpl) (env : Env) (hw : t.wf = true) (henv : Env.itemsWfS env = true)
    (h : t.fill env = some t') : t'.wfS = true :=
  t.fill_wfS t' env (wfS_of_wf t hw) henv h

/-- tables of repeat counts and plain values need no side condition -/
theorem expansion_names_unique_counts (t t' : Tmpl) (env : Env) (hw : t.wf = true)
    (hplain : ∀ kv ∈ env, ∀ x, kv.2 ≠ GoVal.item x) (h : t.fill env = some t') : nodupNames t'.vars = true :=
  expansion_names_unique t t' env hw (Env.itemsWfS_of_no_items env hplain) h

/-- the same through a message -/
theorem message_expansion_names_unique (m m' : Msg) (env : Env) (hw : m.item.wf = true) (henv : Env.itemsWfS env = true)
    (h : m.fill env = some m') : nodupNames m'.item.vars = true := by
  obtain ⟨it, hf, _, rfl⟩ := Msg.fill_eq_some.mp h
  exact expansion_names_unique m.item it env hw henv hf

/-- a base name that already carries an index group collides with a generated name: `x` in copy 1
and the base name `x[1]` kept outside the group are the same name -/
theorem indexed_base_collides : ([120] : Name) ++ idxSuffix [1] = [120, 91, 49, 93] ++ idxSuffix [] := by
  have : decDigits 1 = [49] := by rw [decDigits]; simp
  simp [idxSuffix, this]

example : plainName [120] = true ∧ plainName [120, 91, 49, 93] = false := by decide

/-- tie to the source: the ellipsis pattern -/
theorem facts_ellipsis_pattern :
    Generated.regexps.take 2 = [("ast.isValidVarName", "^[A-Za-z_]\\w*(\\[\\d+\\])*$"),
                                 ("ast.isEllipsis", "^\\.{3}(\\[\\d+\\])?$")] :=
  C12.facts_name_patterns.1

/-! ### non-vacuity: <L <U1 v> ...> filled with 2 gives v[0] v[1] v[2] -/

example : ((Tmpl.list (.item (.uint 1 [.var [118]]) (.var [46, 46, 46] .nil))).fill [([46, 46, 46], .sint 0 2)]).map Tmpl.vars
    = some [[118, 91, 48, 93], [118, 91, 49, 93], [118, 91, 50, 93]] := by decide +kernel

/-! ### non-vacuity of the nested case (a test): `<L <L <U1 v> ...[0]> <A w> ...[1]>` with the inner
ellipsis filled with 1 and the outer with 2 is well formed, the fill succeeds and yields nine names -/

def nestedTmpl : Tmpl :=
  .list (.item (.list (.item (.uint 1 [.var [118]]) (.var [46, 46, 46, 91, 48, 93] .nil)))
    (.item (.asciiVar [119] 0 (-1)) (.var [46, 46, 46, 91, 49, 93] .nil)))

def nestedEnv : Env := [([46, 46, 46, 91, 48, 93], .sint 0 1), ([46, 46, 46, 91, 49, 93], .sint 0 2)]
example : nestedTmpl.wf = true ∧ Env.itemsWfS nestedEnv = true ∧
    ((nestedTmpl.fill nestedEnv).map (fun t => t.vars.length)) = some 9 := by decide +kernel

end Secs.C10
