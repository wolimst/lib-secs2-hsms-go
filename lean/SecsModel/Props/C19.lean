/-
C19 — messages in one SML text are parsed independently.

Proved on the parser model:
 * `tokens_independent`: for the token stream `A` of ANY accepted first text and any token stream
   `B`, parsing `A ++ B` gives the messages of `A` followed by exactly what parsing `B` alone gives
   (same messages, same errors, the warnings of both). It rests on the locality of the parser
   (`parseMessage_loc`, `parseLoop_prefix` in Proofs/ParserLocal, ParserConcat: what is done up to
   a point does not depend on tokens not yet reached), on `parseToks_accepted` (no error ⇒ the
   loop ran to the end-of-input token with the size-check flag down: `parseLoop_skip`) and on
   `continuation_independent` below;
 * variable names and ellipsis numbering are scoped to one message: whatever names and counter the
   previous message left behind, `parseMessage` starts from none (`scope_reset`, `loop_scope`);
   the loop handles one message after the other, appending in order, and stops at the first
   message that fails (`loop_unfold`, `loop_acc`, `loop_acc_prefix`);
 * `printed_texts_independent`: the text-level statement `parse (t₁ ++ sep ++ t₂) = parse t₁ ++
   parse t₂` for texts in printed form (lexer half from Proofs/LexPrintedItems).
* `texts_independent` (and `texts_independent_accepted`, `texts_independent_list`): the text-level
   statement for texts in ANY spelling. `x` is any accepted text that ends with a line break, `b`
   any text at all: `parse (x ++ b)` gives the messages of `x` followed by exactly what `parse b`
   gives - the same messages, the same errors, the warnings of both (diagnostics compared by
   their texts; their positions move with the text). It joins `tokens_independent` with the
   locality of the lexer (Proofs/Scanners, LexCut, LexConcat: every scanner has decided what it
   returns before it could look at a blank or past it - `lexFrom_blank`, of which a text that ends
   with a line feed is the case `lexFrom_concat`), with `accepted_ends` (Proofs/ParserEnds: an
   accepted stream ends with a message terminator, so the lexer is back in the header state) and
   with the fact that an accepted text holds no lexing error (the error token ends the stream and
   is no terminator): `independent_core`.
`texts_independent_blank`: the same behind ANY blank - the first text (accepted when closed by a
line break, no comment open at its end) followed by a space, tab, CR or line break and then any
text; `texts_independent` is its case of a line break.
Not covered by a theorem: a first text joined "by nothing" directly behind its terminator (or
ending in a comment that the second text would continue) - for
printed forms `printed_texts_independent` covers it; in general it is decided on the real code by
the concatenation suite (deep equality with each text parsed alone, every separator kind) and the
model is compared on every concatenated text.
-/
import SecsModel.Model.Parser
import SecsModel.Proofs.ParserNat
import SecsModel.Proofs.LexPrintedItems
import SecsModel.Proofs.ParserConcat
import SecsModel.Proofs.LexConcat
import SecsModel.Proofs.ParserEnds
import SecsModel.Generated.Facts
namespace Secs.C19
open Secs Secs.Sml Secs.Lex

/-- names and ellipsis counter of the previous message are irrelevant to the next one -/
theorem scope_reset (s : PS) (names : List Name) (ell : Nat) :
    parseMessage { s with names := names, ell := ell } = parseMessage s := by
  unfold parseMessage
  rfl

/-- the loop: stop at end of input or at a failing message, otherwise append and go on -/
theorem loop_unfold (fuel : Nat) (s : PS) (acc : List Msg) :
    parseLoop (fuel + 1) s acc =
      if s.peek.kind == .eof then some (acc.reverse, s) else
      match parseMessage s with
      | (none, s1) => some (acc.reverse, s1)
      | (some none, _) => none
      | (some (some m), s1) => parseLoop fuel s1 (m :: acc) := rfl

/-- the messages parsed so far are only ever a prefix put in front -/
theorem loop_acc (fuel : Nat) : ∀ (s : PS) (acc : List Msg),
    parseLoop fuel s acc = (parseLoop fuel s []).map (fun r => (acc.reverse ++ r.1, r.2)) := by
  induction fuel with
  | zero => intro s acc; simp [parseLoop]
  | succ n ih =>
    intro s acc
    rw [loop_unfold, loop_unfold]
    split
    · simp
    · rcases parseMessage s with ⟨_ | _ | m, s1⟩
      · simp
      · rfl
      · simp only
        rw [ih s1 (m :: acc), ih s1 [m]]
        cases parseLoop n s1 [] <;> simp

/-- messages already parsed stay in front, in order, whatever follows -/
theorem loop_acc_prefix (fuel : Nat) (s : PS) (acc : List Msg) (ms : List Msg) (s' : PS)
    (h : parseLoop fuel s acc = some (ms, s')) : ∃ rest, ms = acc.reverse ++ rest := by
  rw [loop_acc] at h
  cases hr : parseLoop fuel s [] with
  | none => rw [hr] at h; cases h
  | some r => rw [hr] at h; cases h; exact ⟨r.1, rfl⟩

/-- what a run of the message loop shows to the caller: messages, errors, warnings -/
def obs (r : Option (List Msg × PS)) : Option (List Msg × List Diag × List Diag) :=
  r.map (fun x => (x.1, x.2.errs, x.2.warns))

/-- the names and the ellipsis counter a previous message left behind are invisible -/
theorem loop_scope (fuel : Nat) (s : PS) (acc : List Msg) (names : List Name) (ell : Nat) :
    obs (parseLoop fuel { s with names := names, ell := ell } acc) = obs (parseLoop fuel s acc) := by
  cases fuel with
  | zero => simp [parseLoop, obs]
  | succ n =>
    rw [loop_unfold, loop_unfold, scope_reset]
    have hp : ({ s with names := names, ell := ell } : PS).peek = s.peek := rfl
    rw [hp]
    split
    · simp [obs]
    · rfl

/-- **Independence of what follows from what came before.** When the loop has parsed the
messages `acc` of a first text without error and stands at the tokens `tb` of a second text —
with whatever warnings `wA`, variable names and ellipsis counter the first text left — it
returns exactly `acc`, followed by what parsing `tb` alone returns, with the same errors and the
same warnings added to `wA`. -/
theorem continuation_independent (fuel : Nat) (tb : List Tok) (acc : List Msg) (wA : List Diag)
    (names : List Name) (ell : Nat) :
    obs (parseLoop fuel { toks := tb, errs := [], warns := wA, names := names, ell := ell, skipSize := false } acc) =
      (obs (parseLoop fuel { toks := tb } [])).map (fun r => (acc.reverse ++ r.1, r.2.1, r.2.2 ++ wA)) := by
  have h1 := loop_scope fuel { toks := tb, errs := [], warns := wA, names := [], ell := 0, skipSize := false } acc names ell
  simp only at h1
  rw [h1, loop_acc]
  have h2 := parseLoop_frame wA fuel { toks := tb } []
  simp only [List.nil_append] at h2
  rw [h2]
  cases parseLoop fuel { toks := tb } [] with
  | none => rfl
  | some r => simp [obs]

/-- **Independence for texts in printed form.** Any number of printable messages, each printed and
followed by any run of blanks / tabs / line breaks (or by nothing), parse to exactly these
messages in order — the messages of the first text followed by those of the second, each equal to
what parsing its own printed form alone gives (`C04.print_parse`). -/
theorem printed_texts_independent (ual : List Nat) (sep : Bytes) (hsep : ∀ c ∈ sep, isBlank c = true)
    (ms1 ms2 : List Msg) (h1 : ∀ m ∈ ms1, Printable m) (h2 : ∀ m ∈ ms2, Printable m) :
    parse ual (printAll sep ms1 ++ printAll sep ms2) = .done (ms1.map unaddressed ++ ms2.map unaddressed) [] [] ∧
    parse ual (printAll sep ms1) = .done (ms1.map unaddressed) [] [] ∧
    parse ual (printAll sep ms2) = .done (ms2.map unaddressed) [] [] := by
  refine ⟨?_, parse_printAll ual sep hsep ms1 h1, parse_printAll ual sep hsep ms2 h2⟩
  have e : printAll sep ms1 ++ printAll sep ms2 = printAll sep (ms1 ++ ms2) := by simp [printAll]
  rw [e, ← List.map_append]
  exact parse_printAll ual sep hsep (ms1 ++ ms2) (by
    intro m hm
    rcases List.mem_append.mp hm with h | h
    · exact h1 m h
    · exact h2 m h)

/-! ### independence for arbitrary accepted token streams -/

/-- the outcome `parseToks` makes of what a run of the message loop shows -/
def outOf : Option (List Msg × List Diag × List Diag) → Outcome
  | none => .panic
  | some (msgs, errs, warns) => if errs.isEmpty then .done msgs [] warns.reverse else .done [] errs.reverse warns.reverse

theorem parseToks_outOf (toks : List Tok) : parseToks toks = outOf (obs (parseLoop (toks.length + 1) { toks := toks } [])) := by
  unfold parseToks outOf obs
  cases parseLoop (toks.length + 1) { toks := toks } [] with
  | none => rfl
  | some r => rfl

/-- **Messages are parsed independently, whatever they are spelled like.** `A` is the token
stream of an accepted first text (without its end-of-input token `e`; acceptance: the parser
reports no error on `A ++ [e]`), `B` any token stream. Then parsing `A ++ B` gives the messages
of the first text followed by what parsing `B` alone gives — the same messages, the same errors,
the warnings of both — and the variable names and the ellipsis count the first text leaves behind
have no influence. -/
theorem tokens_independent (A B : List Tok) (e : Tok) (he : e.kind = .eof) (hA : ∀ t ∈ A, t.kind ≠ .eof)
    (ms1 : List Msg) (w1 : List Diag) (h1 : parseToks (A ++ [e]) = .done ms1 [] w1) :
    parseToks (A ++ B) =
      match parseToks B with
      | .panic => .panic
      | .done ms2 errs w2 => if errs.isEmpty then .done (ms1 ++ ms2) [] (w1 ++ w2) else .done [] errs (w1 ++ w2) := by
  obtain ⟨sEnd, hrun, herr, hw⟩ := parseToks_accepted _ _ _ h1
  obtain ⟨acc', f2', r1, _, r3, r4⟩ := parseLoop_prefix e he B _ A { toks := A ++ [e] } [] ms1 sEnd
    ((A ++ B).length + 1) hA rfl (by simp) (by simp) hrun herr
  -- the state the first text leaves: no error, the flag down, its warnings, names and counter
  have hst : sEnd.withToks B =
      { toks := B, errs := [], warns := sEnd.warns, names := sEnd.names, ell := sEnd.ell, skipSize := false } := by
    rw [← herr, ← parseLoop_skip _ _ _ _ _ rfl hrun herr]
    rfl
  rw [parseToks_outOf, parseToks_outOf, show ({ toks := A ++ B } : PS) = PS.withToks { toks := A ++ [e] } (A ++ B) from rfl,
    r4, parseLoop_fuel f2' (B.length + 1) _ acc' (by simpa using r3) (by simp), hst, continuation_independent, r1, ← hw]
  cases parseLoop (B.length + 1) { toks := B } [] with
  | none => rfl
  | some rb =>
    simp only [obs, Option.map_some, outOf]
    cases rb.2.errs <;> simp

/-! ### independence for texts in any spelling (lexer locality + parser locality) -/

theorem eraseT_idem (t : Tok) : eraseT (eraseT t) = eraseT t := rfl

/-- an accepted text holds no lexing error: the error token would end the stream, and an accepted
stream ends with a message terminator -/
theorem accepted_no_lex_error (ual : List Nat) (x : Bytes) (ms1 : List Msg) (w1 : List Diag)
    (hP : parseToks (((lexFrom ual .header x).map eraseT).filter notComment) = .done ms1 [] w1) :
    ∀ t ∈ (lexFrom ual .header x).map eraseT, t.kind ≠ .error := by
  obtain ⟨ts, last, e1, e2, e3⟩ := lexFuel_shape ual (x.length + 1) .header ⟨x, 1, []⟩ (by simp)
  have e1' : lexFrom ual .header x = ts ++ [last] := e1
  rw [e1'] at hP ⊢
  rcases e3 with e3 | e3
  · intro t ht
    simp only [List.map_append, List.map_cons, List.map_nil, List.mem_append, List.mem_map, List.mem_singleton] at ht
    rcases ht with ⟨t0, ht0, rfl⟩ | rfl
    · exact (e2 t0 ht0).2
    · rw [eraseT_kind, e3]; nofun
  · -- a stream closed by an error token holds no end-of-input token, so it would end with a terminator
    exfalso
    have hk : notComment (eraseT last) = true := by
      show (last.kind != Kind.comment) = true
      rw [e3]; rfl
    simp only [List.map_append, List.map_cons, List.map_nil, List.filter_append, List.filter_cons, hk, if_true, List.filter_nil] at hP
    have hT : ∀ t ∈ (ts.map eraseT).filter notComment ++ [eraseT last], t.kind ≠ .eof := by
      intro t ht
      rcases List.mem_append.mp ht with ht | ht
      · obtain ⟨t0, ht0, rfl⟩ := List.mem_map.mp (List.mem_filter.mp ht).1
        exact (e2 t0 ht0).1
      · rw [List.mem_singleton.mp ht, eraseT_kind, e3]; nofun
    have := (accepted_ends_msgEnd _ hT ms1 w1 hP).getLast (eraseT last) (by simp)
    rw [eraseT_kind, e3] at this
    cases this

/-- the common core, behind any blank: `p`, closed by a line break, is accepted; then `p ++ w :: b` parses
to the messages of `p` followed by what `b` gives -/
theorem independent_core (ual : List Nat) (p b : Bytes) (w : Nat) (hw : isBlank w = true) (hC : COK w p)
    (ms1 : List Msg) (ws1 : List String) (h : (parse ual (p ++ [10])).content = some (ms1, [], ws1)) :
    (parse ual (p ++ w :: b)).content = (parse ual b).content.bind fun r =>
      if r.2.1.isEmpty then some (ms1 ++ r.1, [], ws1 ++ r.2.2) else some ([], r.2.1, ws1 ++ r.2.2) := by
  simp only [parse_content] at h ⊢
  obtain ⟨w1, hP, hw1⟩ := content_done _ _ _ h
  obtain ⟨ts, i1, i2, i3⟩ := lexFrom_blank ual b w hw p.length p .header (Nat.le_refl _)
    (accepted_no_lex_error ual (p ++ [10]) ms1 w1 hP) hC
  have hA : ∀ t ∈ ts.filter notComment, t.kind ≠ .eof := fun t ht => (i3 t (List.mem_filter.mp ht).1).1
  rw [i1, List.filter_append] at hP
  have hP : parseToks (ts.filter notComment ++ [Lex.eofTok]) = .done ms1 [] w1 := hP
  -- the first text leaves the lexer in the header state
  have hmode : modeOf .header ts = .header := by
    rw [← modeOf_filter]
    rcases accepted_ends (ts.filter notComment) [Lex.eofTok] hA (fun t ht => List.mem_singleton.mp ht ▸ rfl) ms1 w1 hP with hnil | ⟨pre, d, hd, hdk⟩
    · have : ts.filter (fun t => t.kind != .comment) = [] := hnil
      rw [this]; rfl
    · have : ts.filter (fun t => t.kind != .comment) = pre ++ [d] := hd
      rw [this]; exact modeOf_ends_msgEnd _ _ _ hdk
  rw [i2, hmode, List.filter_append, tokens_independent (ts.filter notComment) _ Lex.eofTok rfl hA ms1 w1 hP]
  cases parseToks (((lexFrom ual .header b).map eraseT).filter notComment) with
  | panic => rfl
  | done ms2 errs w2 => cases errs <;> simp [Outcome.content, hw1]

/-- **Independence for texts in any spelling.** `x` is any accepted text that ends with a line
break, `b` any text at all. Then parsing `x ++ b` gives the messages of `x` followed by exactly what
parsing `b` alone gives: the same messages, the same errors, the warnings of both (diagnostics are
compared by their texts; their positions move with the text). -/
theorem texts_independent (ual : List Nat) (x b : Bytes) (hx : EndsLF x) (ms1 : List Msg) (ws1 : List String)
    (h : (parse ual x).content = some (ms1, [], ws1)) :
    (parse ual (x ++ b)).content =
      match (parse ual b).content with
      | none => none
      | some (ms2, es, ws2) => if es.isEmpty then some (ms1 ++ ms2, [], ws1 ++ ws2) else some ([], es, ws1 ++ ws2) := by
  obtain ⟨p, rfl⟩ := hx
  rw [List.append_assoc, List.singleton_append, independent_core ual p b 10 rfl (.inl rfl) ms1 ws1 h]
  rcases (parse ual b).content with _ | ⟨ms2, es, ws2⟩ <;> rfl

/-- **Independence behind any blank.** `p`, closed by a line break, is an accepted text, and no
comment is open at its end. Then `p` followed by ANY blank - space, tab, CR or line break - and any
text `b` parses to the messages of `p` followed by exactly what `b` gives alone. -/
theorem texts_independent_blank (ual : List Nat) (p b : Bytes) (w : Nat) (hw : isBlank w = true)
    (hC : w = 10 ∨ ∀ s, s <:+ p → startsWith [47, 47] s = true → 10 ∈ s)
    (ms1 : List Msg) (ws1 : List String) (h : (parse ual (p ++ [10])).content = some (ms1, [], ws1)) :
    (parse ual (p ++ w :: b)).content =
      match (parse ual b).content with
      | none => none
      | some (ms2, es, ws2) => if es.isEmpty then some (ms1 ++ ms2, [], ws1 ++ ws2) else some ([], es, ws1 ++ ws2) := by
  rw [independent_core ual p b w hw hC ms1 ws1 h]
  rcases (parse ual b).content with _ | ⟨ms2, es, ws2⟩ <;> rfl

/-- both texts accepted: the concatenation is accepted and holds the messages of both, in order -/
theorem texts_independent_accepted (ual : List Nat) (x b : Bytes) (hx : EndsLF x) (ms1 ms2 : List Msg) (ws1 ws2 : List String)
    (h1 : (parse ual x).content = some (ms1, [], ws1)) (h2 : (parse ual b).content = some (ms2, [], ws2)) :
    (parse ual (x ++ b)).content = some (ms1 ++ ms2, [], ws1 ++ ws2) := by
  rw [texts_independent ual x b hx ms1 ws1 h1, h2]
  rfl

-- patterns on the analysed argument only, the rest by `fun`: a pattern over all arguments builds a matcher over each
/-- any number of accepted texts, each ending with a line break: their concatenation is accepted
and holds the messages of all of them, in order, each as parsed alone -/
theorem texts_independent_list (ual : List Nat) : ∀ (texts : List (Bytes × List Msg × List String)),
    (∀ t ∈ texts, EndsLF t.1 ∧ (parse ual t.1).content = some (t.2.1, [], t.2.2)) →
    (parse ual (texts.map (·.1)).flatten).content = some ((texts.map (·.2.1)).flatten, [], (texts.map (·.2.2)).flatten) ∨ texts = []
  | [] => fun _ => Or.inr rfl
  | t :: rest => fun h => by
    left
    obtain ⟨ht1, ht2⟩ := h t (by simp)
    rcases texts_independent_list ual rest (fun u hu => h u (List.mem_cons_of_mem _ hu)) with ih | hnil
    · simp only [List.map_cons, List.flatten_cons]
      exact texts_independent_accepted ual t.1 _ ht1 _ _ _ _ ht2 ih
    · subst hnil
      simp only [List.map_cons, List.map_nil, List.flatten_cons, List.flatten_nil, List.append_nil]
      exact ht2

/-! non-vacuity (tests): a first text in free spelling - lower-case keywords, a comment, a size
declaration over two lines, hexadecimal and exponent literals - meets the hypotheses -/

def sampleText : Bytes := str "s1f1 w // first\n<l [ 2\n ] <u1 0x1f> <f4 1e3>>\n.\n"
example : EndsLF sampleText := ⟨sampleText.dropLast, by decide +kernel⟩
example : ((parse [] sampleText).content.map (fun r => (r.1.length, r.2.1))) = some (1, []) := by decide +kernel

/-- tie to the source: the token channel is per call (capacity constant), no package state -/
theorem facts_no_shared_state : Generated.pkgVars = [] ∧ Generated.tokenChanCap = 2 := by decide

/-! ### non-vacuity (tests): the same variable name and ellipsis in two messages of one text -/

example : (match parse [] (str "S1F1 <L <U1 x> ...>.S1F3 <L <A x> ...>.") with
    | .done msgs [] _ => msgs.map (fun m => m.item.vars) | _ => []) =
    [[[120], [46, 46, 46, 91, 48, 93]], [[120], [46, 46, 46, 91, 48, 93]]] := by decide +kernel

end Secs.C19
