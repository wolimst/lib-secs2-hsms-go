/-
C06 — the SML parser is total and all-or-nothing.

`Sml.parse` is a total function: the kernel accepted its definition, so for every input
(arbitrary bytes) it returns — there is no unbounded loop in the model: the lexer takes at most
`input.length + 1` steps (`lex_bounded`), the parser at most one step per token. The only way
out other than a normal return is the outcome `.panic` (NewDataMessage refusing), which
`no_panic` rules out for every input (`total`). Every token and hence every diagnostic carries
a true position of the input (`positions_true`). If any error is reported no
message is returned, and if none is reported every parsed message is returned in order
(`all_or_nothing`, `all_returned`).
Allocation: the parser never sizes a buffer from a number in the text (the repair of D11: a
duplicated ASCII variable builds no placeholder of the declared size, `dup_ascii_var_no_placeholder`).
Runtime part (heap, goroutine stack, quadratic time on deep nesting) is measured on the real
code in an isolated worker by the correspondence run; it is not in the model.
-/
import SecsModel.Model.Parser
import SecsModel.Proofs.Lexer
import SecsModel.Proofs.NoPanic
import SecsModel.Proofs.ParserErrs
import SecsModel.Generated.Facts
namespace Secs.C06
open Secs Secs.Sml Secs.Lex

/-- if any error is reported, no message is returned -/
theorem all_or_nothing (ual : List Nat) (input : Bytes) (msgs : List Msg) (errs warns : List Diag)
    (h : parse ual input = .done msgs errs warns) : errs ≠ [] → msgs = [] := by
  obtain ⟨_, s, _, he, _, hm⟩ := parseToks_done _ msgs errs warns h
  rcases hm with ⟨h0, _⟩ | ⟨_, hm⟩
  · rw [he, h0]; exact fun hne => absurd rfl hne
  · exact fun _ => hm

/-- if no error is reported, every message the parser built is returned, in order -/
theorem all_returned (ual : List Nat) (input : Bytes) (msgs : List Msg) (warns : List Diag)
    (h : parse ual input = .done msgs [] warns) :
    ∃ s, parseLoop (((lexAll ual input).filter (fun t => t.kind != .comment)).length + 1)
      { toks := (lexAll ual input).filter (fun t => t.kind != .comment) } [] = some (msgs, s) ∧ s.errs = [] := by
  obtain ⟨s, hs, he, _⟩ := parseToks_accepted _ msgs warns h
  exact ⟨s, hs, he⟩

/-- **if no error is reported, every message in the input is returned**: the message loop did not
stop early — it ran until it saw the end-of-input token, so nothing after the last returned message
is left unparsed (a sub-parser that gives up always reports why: `parseMessage_none_err`) -/
theorem no_silent_stop (ual : List Nat) (input : Bytes) (msgs : List Msg) (warns : List Diag)
    (h : parse ual input = .done msgs [] warns) :
    ∃ s, parseLoop (((lexAll ual input).filter (fun t => t.kind != .comment)).length + 1)
      { toks := (lexAll ual input).filter (fun t => t.kind != .comment) } [] = some (msgs, s) ∧
      s.errs = [] ∧ s.peek.kind = .eof := by
  obtain ⟨s, hs, he⟩ := all_returned ual input msgs warns h
  exact ⟨s, hs, he, parseLoop_clean_at_eof _ _ _ _ _ (by simp) hs he⟩

/-- a message that is not built is reported: the loop never drops a message silently -/
theorem failed_message_is_reported (s : PS) (h : (parseMessage s).1 = none) : (parseMessage s).2.errs ≠ [] :=
  parseMessage_none_err s h

/-- parsing keeps nothing between calls: the packages hold no package-level variable (a memo
table would grow with every new input and make concurrent calls abort) -/
theorem facts_no_package_state : Generated.pkgVars = [] := by decide

/-- the lexer emits at most one token per input byte, plus the final one -/
theorem lex_bounded (ual : List Nat) (fuel : Nat) (m : Mode) (p : Pos) : (lexFuel ual fuel m p).length ≤ fuel := by
  induction fuel generalizing m p with
  | zero => simp [lexFuel]
  | succ n ih =>
    simp only [lexFuel]
    split
    · simp
    · simp only [List.length_cons]; have := ih ‹_› ‹_›; omega

theorem lexAll_bounded (ual : List Nat) (input : Bytes) : (lexAll ual input).length ≤ input.length + 1 :=
  lex_bounded ual _ _ _

/-- the lexer makes progress: a step that emits a non-terminal token consumes at least one byte
of the input (so no state function can loop without reading) -/
theorem lexer_progress (ual : List Nat) (m : Mode) (p : Pos) (t : Tok) (m' : Mode) (p' : Pos)
    (h : lexStep ual m p = .tok t m' p') : p'.rest.length < p.rest.length :=
  lexStep_decreases ual m p t m' p' h

/-- the fuel of `lexAll` is never what stops the token stream: any larger fuel gives the same
stream, for every input -/
theorem lexer_fuel_irrelevant (ual : List Nat) (input : Bytes) (k : Nat) :
    lexFuel ual (input.length + 1 + k) .header ⟨input, 1, []⟩ = lexAll ual input :=
  lexFuel_stable ual _ _ _ k (by simp)

/-- for every input the token stream is finite and closed by exactly one terminal token (EOF or
a lexing error); no terminal token occurs before the end -/
theorem lexer_terminates (ual : List Nat) (input : Bytes) :
    ∃ ts t, lexAll ual input = ts ++ [t] ∧ (t.kind = .eof ∨ t.kind = .error) ∧
      ∀ x ∈ ts, x.kind ≠ .eof ∧ x.kind ≠ .error :=
  lexAll_terminal ual input

/-- every token — hence every diagnostic the parser stamps with a token's position — carries
the true line and column of an offset of the input: line = 1 + line feeds in front of the
offset, column = 1 + runes since the start of that line -/
theorem positions_true (ual : List Nat) (input : Bytes) (t : Tok) (h : t ∈ lexAll ual input) :
    ∃ pre suf, input = pre ++ suf ∧ t.line = 1 + pre.count 10 ∧
      t.col = 1 + (Utf8.runes ((pre.reverse.takeWhile (· != 10)).reverse)).length :=
  lexAll_positions ual input t h

/-- **The parser never panics.** The only constructor call outside a recover is NewDataMessage at
the end of a message; for every input its arguments are in its domain: stream and function
clamped, never `W` on an even function, the direction one of the three the lexer produces, the
name free of white-space runes (the header lexer skips them before a token and ends a name at
the first one; cutting the name out of the input does not change how its bytes decode). -/
theorem no_panic (ual : List Nat) (input : Bytes) : parse ual input ≠ .panic :=
  parse_no_panic ual input

/-- hence every input has a normal outcome: messages and diagnostics -/
theorem total (ual : List Nat) (input : Bytes) : ∃ msgs errs warns, parse ual input = .done msgs errs warns := by
  cases h : parse ual input with
  | done m e w => exact ⟨m, e, w, rfl⟩
  | panic => exact absurd h (no_panic ual input)

/-- the parser reports a lexing error through a diagnostic, never by a panic: an error token in
a value position stops the message with a "syntax error" diagnostic -/
theorem lex_error_becomes_diagnostic (ty : Bytes) (w : Nat) (t : Tok) (r : List Tok) (s : PS)
    (h : t.kind = .error) : arrayArgs ty w (t :: r) s = (none, s.err t (lexErrKind t.err)) := by
  have hb : (t.kind == Kind.error) = true := by rw [h]; rfl
  simp only [arrayArgs, hb, if_true]

/-- a duplicated ASCII variable does not build a placeholder of the declared size: whatever
the bounds, the item is the empty string and the size check is skipped -/
theorem dup_ascii_var_no_placeholder (mn mx : Int) (t : Tok) (s : PS) (hk : t.kind = .variable)
    (hd : s.names.contains t.val = true) :
    asciiLoop mn mx 1 [t] [] s = (.ok (.ascii []), { (s.err t "duplicated variable name") with skipSize := true }) :=
  asciiLoop_dup_var mn mx t [] [] s hk hd

/-- stream and function codes handed to NewDataMessage are always in range, whatever the text -/
theorem stream_function_clamped (s : PS) (t : Tok) :
    let r := streamFunction s t
    0 ≤ r.1 ∧ r.1 < 128 ∧ 0 ≤ r.2.1 ∧ r.2.1 < 256 := by
  have h := streamFunction_range s t
  exact ⟨h.1.1, h.1.2, h.2.1, h.2.2⟩

/-! ### tie to the source -/

theorem facts_lexer_tables :
    Generated.lexHeaderRuneCases = [[32, 9, 13, 10]] ∧ Generated.lexTextRuneCases = [[32, 9, 13, 10]] ∧
    Generated.lexTextKeywordCases = [["L", "A", "B", "BOOLEAN", "F4", "F8", "I1", "I2", "I4", "I8", "U1", "U2", "U4", "U8"], ["T", "F"]] ∧
    Generated.smlStreamFunctionInts = [-1, -1, 1, 1, 0, 128, 0, 0, 256, 0] ∧ Generated.tokenChanCap = 2 := by decide

theorem facts_regexps :
    Generated.regexps = [("ast.isValidVarName", "^[A-Za-z_]\\w*(\\[\\d+\\])*$"),
      ("ast.isEllipsis", "^\\.{3}(\\[\\d+\\])?$"),
      ("sml.lexMessageHeader", "^[Ss]\\d+[Ff]\\d+"),
      ("sml.lexMessageHeader", "^([Ww]|\\[[Ww]\\])"),
      ("sml.lexMessageHeader", "^[Hh](->|<->|<-)[Ee]"),
      ("sml.lexMessageText", "^\\.\\.\\.(\\[\\d+\\])?"),
      ("sml.lexMessageText", "^[A-Za-z_]\\w*"),
      ("sml.lexMessageText", "^(\\[\\d+\\])+")] := by decide

/-! ### non-vacuity (these are tests, not the unbounded claim) -/

example : (match parse [] (str "S1F1 \x0bW\n.") with | .panic => false | .done _ _ _ => true) = true := by
  decide +kernel

end Secs.C06
