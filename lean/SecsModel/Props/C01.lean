/-
C01 — HSMS encode→decode round trip preserves every data message.

For every complete data message (any header fields, any well-formed variable-free item tree of
any shape and size) decoding the bytes it encodes to succeeds and returns the same stream,
function, wait bit, session id, system bytes and item tree; encoding the result gives the same
bytes. Unbounded: by structural induction over the (mutual) item tree.
-/
import SecsModel.Proofs.MsgCodec
import SecsModel.Generated.Facts
namespace Secs.C01
open Secs

/-- a complete data message as the API can produce it (checkRep holds, wait bit decided,
session id set, item well-formed and variable-free or absent). `small` is the only size
hypothesis: the 4-byte message length field must be able to hold the length (< 4 GiB). -/
structure Complete (m : Msg) : Prop where
  valid : m.valid = true
  complete : m.complete = true
  wf : m.item.wf = true
  closed : m.item.closed = true ∨ m.item = .empty
  small : m.item.enc.length + 10 < 2 ^ 32

/-- what the decoder returns: same fields, no name, direction "H<->E" -/
def decoded (m : Msg) : Msg := { m with name := [], direction := dirBoth }

/-- item trees: decode ∘ encode = id, for every well-formed closed tree, any trailing bytes,
any sufficient fuel -/
theorem item_roundtrip (t : Tmpl) (hw : t.wf = true) (hc : t.closed = true) (rest : Bytes) (fuel : Nat)
    (hf : t.sz ≤ fuel) : decItem fuel (t.enc ++ rest) = some (t, rest) :=
  decItem_enc t hw hc rest fuel hf

/-- the fuel the decoder uses (text length + 1) always suffices for an encoded item -/
theorem fuel_suffices (t : Tmpl) (hw : t.wf = true) (hc : t.closed = true) : t.sz ≤ t.enc.length + 1 := by
  have := sz_lt_enc t hw hc; omega

theorem mkHsms_ok (s f w sid : Int) (item : Tmpl) (a b c d : Nat)
    (hs : 0 ≤ s ∧ s < 128) (hf : 0 ≤ f ∧ f < 256) (hw : w = 0 ∨ w = 1)
    (hwf : ¬ (w = 1 ∧ f % 2 = 0)) (hsid : 0 ≤ sid ∧ sid < 65536) (hv : item.vars.isEmpty = true) :
    mkHsmsMsg [] s f w dirBoth item sid [a, b, c, d] = some ⟨[], s, f, w, dirBoth, item, sid, [a, b, c, d]⟩ := by
  exact mkHsmsMsg_eq_some.mpr ⟨hw, by omega, hv,
    (Msg.valid_iff _).mpr ⟨rfl, hs, hf, hwf, show 0 ≤ w ∧ w ≤ 2 by omega, show -1 ≤ sid ∧ sid < 65536 by omega,
      rfl, .inr (.inr rfl)⟩, rfl⟩

theorem roundtrip (m : Msg) (h : Complete m) : decode m.enc = some (.data (decoded m)) := by
  obtain ⟨hv, hcomp, hw, hcl, hsmall⟩ := h
  obtain ⟨_, hs, hf, hwf, hwb, hsid, hsys, _⟩ := (Msg.valid_iff m).mp hv
  obtain ⟨a, b, c, d, hsb⟩ := length4 m.sysBytes hsys
  have hcc := hcomp
  simp only [Msg.complete, Bool.and_eq_true, bne_iff_ne, ne_eq] at hcomp
  obtain ⟨⟨hw2, hvars⟩, hsid1⟩ := hcomp
  -- by a term: `omega` would first split on every disjunction of the context
  have hsid0 : 0 ≤ m.sessionID ∧ m.sessionID < 65536 := ⟨Int.lt_iff_le_and_ne.mpr ⟨hsid.1, Ne.symm hsid1⟩, hsid.2⟩
  have hL : m.item.enc.length + 10 < 256 ^ 4 := by
    have : (256 : Nat) ^ 4 = 2 ^ 32 := by decide
    omega
  rw [enc_frame m hcc a b c d hsb, decode_frame _ _ _ _ _ _ _ _ _ hL]
  have hwcases : m.waitBit = 0 ∨ m.waitBit = 1 := by omega
  obtain ⟨hstream, hwait⟩ := byte2_readback m.stream m.waitBit hs hwcases
  have hfn := fn_readback m.function hf
  have hsidv := sid_readback m.sessionID hsid0
  rw [hstream, hwait, hfn, hsidv]
  have hmk := fun item hv => mkHsms_ok m.stream m.function m.waitBit m.sessionID item a b c d hs hf hwcases hwf hsid0 hv
  rcases hcl with hcl | hemp
  · have h2 := enc_length_ge m.item hw hcl
    have hne : (m.item.enc.length + 10 == 10) = false := by
      simp only [beq_eq_false_iff_ne, ne_eq]; omega
    simp only [hne, Bool.false_eq_true, if_false, decodeText_enc m.item hw hcl]
    rw [hmk m.item hvars]
    simp only [Option.map, decoded, ← hsb]
  · have he : m.item.enc = [] := by rw [hemp]; rfl
    simp only [he, List.length_nil, Nat.zero_add, beq_self_eq_true, if_true]
    rw [hmk Tmpl.empty (by rfl)]
    simp only [Option.map, decoded, ← hsb, ← hemp]

/-- encoding the decoded message gives the same bytes again -/
theorem reencode (m : Msg) : (decoded m).enc = m.enc := by
  simp [decoded, Msg.enc, Msg.complete]

/-- the two together, as the property states it -/
theorem roundtrip_reencode (m : Msg) (h : Complete m) :
    ∃ m', decode m.enc = some (.data m') ∧ m'.stream = m.stream ∧ m'.function = m.function ∧
      m'.waitBit = m.waitBit ∧ m'.sessionID = m.sessionID ∧ m'.sysBytes = m.sysBytes ∧ m'.item = m.item ∧
      m'.enc = m.enc :=
  ⟨decoded m, roundtrip m h, rfl, rfl, rfl, rfl, rfl, rfl, reencode m⟩

/-! ### the tie to the source: tables and limit as extracted from the tree under test -/

theorem facts_tables :
    Generated.maxByteSize = (maxByteSize : Int) ∧ Generated.tableKeysOk = true ∧
    Generated.bytePerValue = Fmt.all.map (fun f => (f.width : Int)) ∧
    Generated.formatCode = Fmt.all.map (fun f => (f.code : Int)) := by decide

theorem facts_decoder_dispatch :
    Generated.decoderDispatch =
      [(0, "NewListNode", 0), (16, "NewASCIINode", 0), (24, "parseInt", 8), (25, "parseInt", 1),
       (26, "parseInt", 2), (28, "parseInt", 4), (32, "parseFloat", 8), (36, "parseFloat", 4),
       (40, "parseUint", 8), (41, "parseUint", 1), (42, "parseUint", 2), (44, "parseUint", 4),
       (8, "NewBinaryNode", 0), (9, "NewBooleanNode", 0)] := by decide

/-! ### non-vacuity: a three-level tree with every format and a 300-character string (2 length bytes) -/

def sampleItem : Tmpl :=
  .list (.item (.ascii (List.replicate 300 65))
    (.item (.list (.item (.binary [.val 0, .val 255]) (.item (.boolean [.val true, .val false])
      (.item (.list (.item (.int 1 [.val (-128)]) (.item (.int 2 [.val 32767]) (.item (.int 4 [.val (-1)])
        (.item (.int 8 [.val (-9223372036854775808)]) .nil))))) .nil))))
    (.item (.uint 1 [.val 255]) (.item (.uint 2 [.val 65535]) (.item (.uint 4 [.val 4294967295])
    (.item (.uint 8 [.val 18446744073709551615]) (.item (.float 4 [.val 0x3DCCCCCD]) (.item (.float 8 [.val 1])
    .nil))))))))

def sampleMsg : Msg := ⟨[], 1, 3, 1, dirBoth, sampleItem, 65535, [1, 2, 3, 4]⟩

set_option maxRecDepth 20000 in
example : sampleItem.wf = true ∧ sampleItem.closed = true := by decide +kernel
set_option maxRecDepth 20000 in
example : sampleMsg.valid = true ∧ sampleMsg.complete = true := by decide +kernel

end Secs.C01
