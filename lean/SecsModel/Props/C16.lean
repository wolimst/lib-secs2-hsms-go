/-
C16 — variable listing matches the printed order; encodable iff no variables.

Proved: no name occurs twice anywhere in a tree the API can build - for EVERY history of factory
calls and fills (`Reach`, `reachable_well_formed`, `reachable_names_unique`: well-formedness is an
invariant of every factory and of FillVariables, ellipsis expansion at any nesting depth included),
and in every message `sml.Parse` returns, for every input text (`parsed_well_formed`,
`parsed_names_unique`: the parser builds items through the factories only), and every item the
HSMS decoder returns is well formed, variable-free and lists no variable (`decoded_well_formed`);
an item other than the error placeholder `emptyItemNode` encodes to bytes iff it has no variable
(`encodes_iff_no_vars`, `bytes_iff_no_vars`); the variable list is, slot by slot, the sequence of
variable names the printer writes (`printed_names` for one array item), and it occurs in this
order in the printed form of the whole tree (`printed_order`, `listing_matches_print`); the
reported size is the number of slots the printer writes, −1 for an ASCII variable
(`size_eq_printed`).
-/
import SecsModel.Proofs.Wire
import SecsModel.Props.C02
import SecsModel.Props.C12
import SecsModel.Model.Print
import SecsModel.Proofs.FillWF
import SecsModel.Proofs.ParserWF
import SecsModel.Proofs.DecodeWF
namespace Secs.C16
open Secs

theorem vars_nodup (t : Tmpl) (hw : t.wf = true) : nodupNames t.vars = true :=
  wfS_vars_nodup t (wfS_of_wf t hw)

-- no `emptyItemNode` anywhere inside (it is an error placeholder, not an item)
mutual
def noEmpty : Tmpl → Bool
  | .list xs => noEmptyS xs
  | .empty => false
  | _ => true

def noEmptyS : Slots → Bool
  | .nil => true
  | .item t r => noEmpty t && noEmptyS r
  | .var _ r => noEmptyS r
end

theorem closed_of_no_vars (t : Tmpl) (hn : noEmpty t = true) (hv : t.vars = []) : t.closed = true :=
  (closed_iff_no_vars t).mpr ⟨hv, by rintro rfl; cases hn⟩

theorem closedAll_of_no_vars (xs : Slots) (hn : noEmptyS xs = true) (hv : xs.vars = []) : xs.closedAll = true :=
  (closedAll_iff_no_vars xs).mpr hv

/-- an item other than the placeholder `emptyItemNode` encodes to bytes iff its variable list is empty
(a placeholder inside a list is listed under the empty name, so the list is not empty there) -/
theorem encodes_iff_no_vars (t : Tmpl) (hw : t.wf = true) (hn : t ≠ .empty) : t.enc ≠ [] ↔ t.vars = [] := by
  constructor
  · intro h
    by_cases hc : t.closed = true
    · exact vars_closed t hc
    · exact absurd (C02.open_item_no_bytes t (by simpa using hc)) h
  · intro hv h
    have := enc_length_ge t hw ((closed_iff_no_vars t).mpr ⟨hv, hn⟩)
    rw [h] at this
    simp at this

/-- an item encodes to bytes iff its variable list is empty -/
theorem bytes_iff_no_vars (t : Tmpl) (hw : t.wf = true) (hn : noEmpty t = true) :
    t.enc ≠ [] ↔ t.vars = [] :=
  encodes_iff_no_vars t hw (by rintro rfl; cases hn)

/-- the names the printer writes for an array item, in order, are exactly the variable list -/
theorem printed_names {α} (f : α → Bytes) (xs : List (Slot α)) :
    (printSlots f xs).length = xs.length ∧
    slotVars xs = (xs.filterMap (fun s => match s with | .var n => some n | .val _ => none)) := by
  induction xs with
  | nil => exact ⟨rfl, rfl⟩
  | cons x r ih =>
    cases x with
    | val a => simp [printSlots, slotVars, ih.1, ih.2]
    | var n => simp [printSlots, slotVars, ih.1, ih.2]

/-- each variable slot is printed as its name, each value slot as its value: element i of the
printed element list is the name iff slot i is a variable -/
theorem printed_slot {α} (f : α → Bytes) (xs : List (Slot α)) (i : Nat) (n : Name)
    (h : xs[i]? = some (.var n)) : (printSlots f xs)[i]? = some n := by
  induction xs generalizing i with
  | nil => simp at h
  | cons x r ih =>
    cases i with
    | zero => simp at h; subst h; simp [printSlots]
    | succ i =>
      simp at h
      cases x <;> simp [printSlots, ih i h]

/-- reported size = number of slots the printer writes (−1 for an ASCII variable, by convention) -/
theorem size_eq_printed : ∀ t : Tmpl, t.size =
    match t with
    | .list xs => (xs.len : Int)
    | .ascii s => (s.length : Int)
    | .asciiVar _ _ _ => -1
    | .binary xs => ((printSlots printBin xs).length : Int)
    | .boolean xs => ((printSlots printBool xs).length : Int)
    | .int _ xs => ((printSlots intDec xs).length : Int)
    | .uint _ xs => ((printSlots decDigits xs).length : Int)
    | .float w xs => ((printSlots (FloatLib.fmtG w) xs).length : Int)
    | .empty => 0
  | .list _ | .ascii _ | .asciiVar _ _ _ | .empty => rfl
  | .binary xs => by simp [Tmpl.size, (printed_names printBin xs).1]
  | .boolean xs => by simp [Tmpl.size, (printed_names printBool xs).1]
  | .int _ xs => by simp [Tmpl.size, (printed_names intDec xs).1]
  | .uint _ xs => by simp [Tmpl.size, (printed_names decDigits xs).1]
  | .float w xs => by simp [Tmpl.size, (printed_names (FloatLib.fmtG w) xs).1]

-- no array item and no ASCII variable carries an ellipsis name (guaranteed by the factories)
mutual
def leafNamesPlain : Tmpl → Bool
  | .list xs => leafNamesPlainS xs
  | .asciiVar n _ _ => !isEllipsis n
  | .binary xs => (slotVars xs).all (fun n => !isEllipsis n)
  | .boolean xs => (slotVars xs).all (fun n => !isEllipsis n)
  | .int _ xs => (slotVars xs).all (fun n => !isEllipsis n)
  | .uint _ xs => (slotVars xs).all (fun n => !isEllipsis n)
  | .float _ xs => (slotVars xs).all (fun n => !isEllipsis n)
  | _ => true

def leafNamesPlainS : Slots → Bool
  | .nil => true
  | .item t r => leafNamesPlain t && leafNamesPlainS r
  | .var _ r => leafNamesPlainS r
end

/-- the names occur in the text in this order, one after the other (disjoint occurrences) -/
inductive Occurs : List Bytes → Bytes → Prop
  | nil (text : Bytes) : Occurs [] text
  | cons (n : Bytes) (ns : List Bytes) (pre rest : Bytes) : Occurs ns rest → Occurs (n :: ns) (pre ++ n ++ rest)

theorem Occurs.prepend {ns : List Bytes} {text : Bytes} (pre : Bytes) (h : Occurs ns text) : Occurs ns (pre ++ text) := by
  cases h with
  | nil => exact .nil _
  | cons n ns p rest hr =>
    have : pre ++ (p ++ n ++ rest) = (pre ++ p) ++ n ++ rest := by simp
    rw [this]; exact .cons n ns _ rest hr

theorem Occurs.extend {ns : List Bytes} {text : Bytes} (suf : Bytes) (h : Occurs ns text) : Occurs ns (text ++ suf) := by
  induction h with
  | nil => exact .nil _
  | cons n ns p rest _ ih =>
    have : p ++ n ++ rest ++ suf = p ++ n ++ (rest ++ suf) := by simp
    rw [this]; exact .cons n ns p _ ih

theorem Occurs.append {a b : List Bytes} {x y : Bytes} (ha : Occurs a x) (hb : Occurs b y) : Occurs (a ++ b) (x ++ y) := by
  induction ha with
  | nil text => exact hb.prepend text
  | cons n ns p rest _ ih =>
    have : p ++ n ++ rest ++ y = p ++ n ++ (rest ++ y) := by simp
    rw [this]; exact .cons n _ p _ ih

/-- how a variable name is written: an ellipsis as `...`, any other name as it is -/
def shown (n : Name) : Bytes := if isEllipsis n then str "..." else n

/-- what follows an element in a blank-separated line: nothing, or a blank and the rest of the line -/
theorem joinSp_cons (x : Bytes) (l : List Bytes) : joinSp (x :: l) = x ++ (if l = [] then [] else 32 :: joinSp l) := by
  cases l <;> simp [joinSp]

theorem occurs_slots {α} (f : α → Bytes) (xs : List (Slot α)) :
    Occurs (slotVars xs) (joinSp (printSlots f xs)) := by
  induction xs with
  | nil => exact .nil _
  | cons x r ih =>
    -- the names of the rest occur in what follows the first element
    have tail : Occurs (slotVars r) (if printSlots f r = [] then [] else 32 :: joinSp (printSlots f r)) := by
      split
      · rename_i h
        have : r = [] := List.eq_nil_of_length_eq_zero (by rw [← (printed_names f r).1, h]; rfl)
        subst this; exact .nil _
      · exact ih.prepend [32]
    cases x with
    | val a => simp only [printSlots, slotVars, joinSp_cons]; exact tail.prepend _
    | var n =>
      simp only [printSlots, slotVars, joinSp_cons]
      simpa using Occurs.cons n _ [] _ tail

theorem occurs_array {α} (ty : Bytes) (f : α → Bytes) (xs : List (Slot α)) :
    Occurs (slotVars xs) (printArray ty f xs) := by
  unfold printArray
  split
  · rename_i h
    have : xs = [] := by simpa using h
    subst this
    exact .nil _
  · exact ((occurs_slots f xs).prepend _).extend _

theorem shown_of_not_ellipsis (n : Name) (h : isEllipsis n = false) : shown n = n := by simp [shown, h]

theorem map_shown_plain (ns : List Name) (h : ns.all (fun n => !isEllipsis n) = true) : ns.map shown = ns := by
  induction ns with
  | nil => rfl
  | cons n r ih =>
    simp only [List.all_cons, Bool.and_eq_true, Bool.not_eq_true'] at h
    simp [shown, h.1, ih h.2]

-- patterns on the analysed argument only, the rest by `fun`: a pattern over all arguments builds a matcher over each
mutual
/-- **Printed order.** For every tree, the variable list — every name once (`vars_nodup`), an
ellipsis written as `...` — occurs in this order in the printed form. Stated for the trees in
which no array item or ASCII variable carries an ellipsis name, which the factories guarantee
(`isValidVarName` excludes it). -/
theorem printed_order (level : Nat) : ∀ t : Tmpl, leafNamesPlain t = true →
    Occurs (t.vars.map shown) (t.printAt level)
  | .list xs => fun h => by
    simp only [Tmpl.printAt, Tmpl.vars]
    split
    · rename_i h0
      have : xs.vars = [] := by
        cases xs with
        | nil => rfl
        | item t r => simp [Slots.len] at h0
        | var n r => simp [Slots.len] at h0
      rw [this]; exact .nil _
    · exact (((printed_order_slots level xs h).prepend _).extend _).extend _
  | .ascii s => fun _ => .nil _
  | .asciiVar n mn mx => fun h => by
    simp only [Tmpl.printAt, Tmpl.vars, List.map]
    rw [shown_of_not_ellipsis n (Bool.not_eq_true' _ |>.mp h)]
    have := Occurs.cons n [] (str "<A" ++ printSizeBounds mn mx ++ [32]) [62] (.nil _)
    simpa using this
  | .binary xs | .boolean xs | .int _ xs | .uint _ xs | .float _ xs => fun h => by
    simp only [Tmpl.printAt, Tmpl.vars]; rw [map_shown_plain _ h]; exact occurs_array _ _ xs
  | .empty => fun _ => .nil _

theorem printed_order_slots (level : Nat) : ∀ xs : Slots, leafNamesPlainS xs = true →
    Occurs (xs.vars.map shown) (xs.printAt level)
  | .nil => fun _ => .nil _
  | .item t r => fun h => by
    simp only [leafNamesPlainS, Bool.and_eq_true] at h
    have ihr := printed_order_slots level r h.2
    by_cases he : t = .empty
    · subst he
      have := Occurs.cons [] _ (rep level [32, 32] ++ [32, 32] ++ Tmpl.printAt 0 .empty) _ (ihr.prepend [10])
      simpa [Slots.vars, Slots.printAt, shown, isEllipsis, Tmpl.isList] using this
    · rw [slots_vars_item t r he, List.map_append]
      cases hl : t.isList
      · have := ((printed_order 0 t h.1).prepend (rep level [32, 32] ++ [32, 32])).append (ihr.prepend [10])
        simpa only [Slots.printAt, hl, Bool.false_eq_true, if_false, List.append_assoc] using this
      · have := (printed_order (level + 1) t h.1).append (ihr.prepend [10])
        simpa only [Slots.printAt, hl, if_true, List.append_assoc] using this
  | .var n r => fun h => by
    have ihr := printed_order_slots level r h
    simp only [Slots.vars, Slots.printAt, List.map_cons]
    have := Occurs.cons (shown n) _ (rep level [32, 32] ++ [32, 32]) _ (ihr.prepend [10])
    simpa [shown] using this
end

theorem slotsOk_plain {α} (p : α → Bool) (xs : List (Slot α)) (h : slotsOk p xs = true) :
    (slotVars xs).all (fun n => !isEllipsis n) = true := by
  simp only [List.all_eq_true, Bool.not_eq_true']
  exact fun n hn => valid_not_ellipsis n ((slotsOk_mem p xs h).2 n ((mem_slotVars n xs).mp hn))

mutual
theorem wf_leafNamesPlain : ∀ t : Tmpl, t.wf = true → leafNamesPlain t = true
  | .list xs => fun h => wf_leafNamesPlainS xs (wf_list_iff.mp h).2.1
  | .ascii _ => fun _ => rfl
  | .asciiVar n _ _ => fun h => by
    simp only [Tmpl.wf, Bool.and_eq_true] at h
    simp [leafNamesPlain, valid_not_ellipsis n h.1.1.1]
  | .binary xs | .boolean xs | .int _ xs | .uint _ xs | .float _ xs => fun h => by
    simp only [Tmpl.wf, Bool.and_eq_true] at h; exact slotsOk_plain _ xs h.2
  | .empty => fun _ => rfl

theorem wf_leafNamesPlainS : ∀ xs : Slots, xs.wfAll = true → leafNamesPlainS xs = true
  | .nil => fun _ => rfl
  | .item t r => fun h => by
    simp only [Slots.wfAll, Bool.and_eq_true] at h
    simp [leafNamesPlainS, wf_leafNamesPlain t h.1, wf_leafNamesPlainS r h.2]
  | .var _ r => fun h => by
    simp only [Slots.wfAll] at h
    simpa [leafNamesPlainS] using wf_leafNamesPlainS r h
end

/-- for every tree the API can build: each unfilled variable is listed once and the list occurs
in order in the printed form -/
theorem listing_matches_print (level : Nat) (t : Tmpl) (hw : t.wf = true) :
    nodupNames t.vars = true ∧ Occurs (t.vars.map shown) (t.printAt level) :=
  ⟨vars_nodup t hw, printed_order level t (wf_leafNamesPlain t hw)⟩

/-- the trees reachable through the library: the nine factories (a list factory on reachable
items), FillVariables on a reachable tree with a table whose fill-in items are reachable, the items
of the messages `sml.Parse` returns for any text, and the items `hsms.Parse` decodes from any bytes -/
inductive Reach : Tmpl → Prop
  | int (w : Nat) (args : List GoVal) (t : Tmpl) : mkInt w args = some t → Reach t
  | uint (w : Nat) (args : List GoVal) (t : Tmpl) : mkUint w args = some t → Reach t
  | float (w : Nat) (args : List GoVal) (t : Tmpl) : mkFloat w args = some t → Reach t
  | binary (args : List GoVal) (t : Tmpl) : mkBinary args = some t → Reach t
  | boolean (args : List GoVal) (t : Tmpl) : mkBoolean args = some t → Reach t
  | ascii (s : Bytes) (t : Tmpl) : mkAscii s = some t → Reach t
  | asciiVar (n : Name) (mn mx : Int) (t : Tmpl) : mkAsciiVar n mn mx = some t → Reach t
  | empty : Reach .empty
  | list (args : List GoVal) (t : Tmpl) : (∀ x, GoVal.item x ∈ args → Reach x) → mkList args = some t → Reach t
  | fill (t t' : Tmpl) (env : Env) : Reach t → (∀ k x, (k, GoVal.item x) ∈ env → Reach x) →
      t.fill env = some t' → Reach t'
  | parsed (ual : List Nat) (input : Bytes) (msgs : List Msg) (errs warns : List Sml.Diag) (m : Msg) :
      Sml.parse ual input = .done msgs errs warns → m ∈ msgs → Reach m.item
  | decoded (fuel : Nat) (inp : Bytes) (t : Tmpl) (r : Bytes) : decItem fuel inp = some (t, r) → IsBytes inp → Reach t

/-- **invariant over all histories**: whatever sequence of factory calls and fills produced a
tree, it is well formed -/
theorem reachable_well_formed (t : Tmpl) (h : Reach t) : t.wfS = true := by
  induction h with
  | int w args t h => exact mkInt_wfS w args t h
  | uint w args t h => exact mkUint_wfS w args t h
  | float w args t h => exact mkFloat_wfS w args t h
  | binary args t h => exact mkBinary_wfS args t h
  | boolean args t h => exact mkBoolean_wfS args t h
  | ascii s t h => exact mkAscii_wfS s t h
  | asciiVar n mn mx t h => exact mkAsciiVar_wfS n mn mx t h
  | empty => rfl
  | list args t _ h ih => exact mkList_wfS args t h ((itemsWfS_iff args).mpr ih)
  | fill t t' env _ _ h iht ihenv => exact t.fill_wfS t' env iht ((Env.itemsWfS_iff env).mpr ihenv) h
  | parsed ual input msgs errs warns m h hm => exact Sml.parse_wf ual input msgs errs warns h m hm
  | decoded fuel inp t r h hb => exact wfS_of_wf t (decItem_wf fuel inp t r h hb).1

/-- … so **no name occurs twice anywhere in it** -/
theorem reachable_names_unique (t : Tmpl) (h : Reach t) : nodupNames t.vars = true :=
  wfS_vars_nodup t (reachable_well_formed t h)

/-- every message the SML parser returns, for EVERY input text, carries a well-formed item … -/
theorem parsed_well_formed (ual : List Nat) (input : Bytes) (msgs : List Msg) (errs warns : List Sml.Diag)
    (h : Sml.parse ual input = .done msgs errs warns) : ∀ m ∈ msgs, m.item.wfS = true :=
  Sml.parse_wf ual input msgs errs warns h

/-- … and is a valid message (what `DataMessage.checkRep` demands of name, codes, wait bit, direction) -/
theorem parsed_valid (ual : List Nat) (input : Bytes) (msgs : List Msg) (errs warns : List Sml.Diag)
    (h : Sml.parse ual input = .done msgs errs warns) : ∀ m ∈ msgs, m.valid = true :=
  fun m hm => (Sml.parse_valid_wf ual input msgs errs warns h m hm).1

/-- … in which no name occurs twice -/
theorem parsed_names_unique (ual : List Nat) (input : Bytes) (msgs : List Msg) (errs warns : List Sml.Diag)
    (h : Sml.parse ual input = .done msgs errs warns) : ∀ m ∈ msgs, nodupNames m.item.vars = true :=
  fun m hm => wfS_vars_nodup _ (parsed_well_formed ual input msgs errs warns h m hm)

/-- every item the HSMS decoder returns, for EVERY byte string, is well formed (values in range,
floats finite, sizes within the limit), variable-free, and lists no variable -/
theorem decoded_well_formed (fuel : Nat) (inp : Bytes) (t : Tmpl) (r : Bytes) (h : decItem fuel inp = some (t, r))
    (hb : IsBytes inp) : t.wf = true ∧ t.closed = true ∧ t.vars = [] := by
  have := decItem_wf fuel inp t r h hb
  exact ⟨this.1, this.2, vars_closed t this.2⟩

/-- every data message `hsms.Parse` returns, for EVERY byte string, is a valid message whose item
is absent (a header-only message) or well formed and variable-free -/
theorem decoded_message_well_formed (inp : Bytes) (m : Msg) (h : decode inp = some (.data m)) (hb : IsBytes inp) :
    m.valid = true ∧ (m.item = .empty ∨ (m.item.wf = true ∧ m.item.closed = true)) :=
  decode_data_wf inp m h hb

/-- non-vacuity (a test): `<L <U1 1 x> y>` is reachable by two factory calls -/
example : Reach (.list (.item (.uint 1 [.val 1, .var [120]]) (.var [121] .nil))) :=
  Reach.list [.item (.uint 1 [.val 1, .var [120]]), .str [121]] _
    (fun x hx => by
      simp only [List.mem_cons, GoVal.item.injEq, List.mem_nil_iff, or_false, reduceCtorEq] at hx
      subst hx
      exact Reach.uint 1 [.uint 8 1, .str [120]] _ rfl)
    rfl

/-! ### non-vacuity -/

example : Tmpl.wf (.list (.item (.uint 1 [.val 1, .var [120]]) (.var [121] .nil))) = true := by decide
example : Tmpl.vars (.list (.item (.uint 1 [.val 1, .var [120]]) (.var [121] .nil))) = [[120], [121]] := by decide

end Secs.C16
