/-
C02 — encoded bytes conform to the SEMI E5 / E37 wire format.

`Spec.Encodes` is the standard as an inductive relation. The encoder's output for every
well-formed variable-free item is an encoding in that relation and the only one; an item with a
variable (or a message that is not complete) encodes to the empty byte string, never to partial
bytes; a complete message is the item behind the 4-byte length and the 10-byte header.
-/
import SecsModel.Proofs.MsgCodec
import SecsModel.Generated.Facts
namespace Secs.C02
open Secs Secs.Spec

/-- the encoder's output is a standard encoding … -/
theorem enc_sound (t : Tmpl) (hw : t.wf = true) (hc : t.closed = true) : Encodes t t.enc :=
  Secs.enc_sound t hw hc

/-- … and the standard admits no other bytes for the item (minimal length bytes, one payload) -/
theorem enc_unique (t : Tmpl) (b : Bytes) (h : Encodes t b) : b = t.enc :=
  (Secs.enc_unique t b h).2.2

/-- the relation holds exactly for what the API can build without variables -/
theorem encodes_iff (t : Tmpl) (b : Bytes) : Encodes t b ↔ (t.wf = true ∧ t.closed = true ∧ b = t.enc) :=
  ⟨Secs.enc_unique t b, fun ⟨hw, hc, hb⟩ => hb ▸ Secs.enc_sound t hw hc⟩

theorem slotVals_none {α} (xs : List (Slot α)) (h : (slotVars xs).isEmpty = false) : slotVals xs = none := by
  induction xs with
  | nil => simp [slotVars] at h
  | cons x r ih =>
    cases x with
    | var n => rfl
    | val a => simp [slotVals, ih (by simpa [slotVars] using h)]

mutual
/-- an item that is not closed (a variable or an empty item anywhere inside) has no bytes at all -/
theorem open_item_no_bytes (t : Tmpl) (h : t.closed = false) : t.enc = [] := by
  cases t with
  | list xs =>
    have := open_items_no_bytes xs (by simpa [Tmpl.closed] using h)
    simp only [Tmpl.enc, this]
    cases headerBytes Fmt.list xs.len <;> rfl
  | ascii s => simp [Tmpl.closed] at h
  | asciiVar n a b => rfl
  | empty => rfl
  | binary xs | boolean xs | int _ xs | uint _ xs | float _ xs =>
    simp [Tmpl.enc, slotVals_none xs (by simpa [Tmpl.closed] using h)]

theorem open_items_no_bytes (xs : Slots) (h : xs.closedAll = false) : xs.enc = none := by
  cases xs with
  | nil => simp [Slots.closedAll] at h
  | var n r => rfl
  | item t r =>
    simp only [Slots.closedAll, Bool.and_eq_false_iff] at h
    simp only [Slots.enc]
    rcases h with h | h
    · rw [open_item_no_bytes t h]
    · rw [open_items_no_bytes r h]
      split <;> simp_all
end

/-- never partial bytes: every item the API can build encodes either to nothing or to a complete
standard encoding -/
theorem never_partial (t : Tmpl) (hw : t.wf = true) : t.enc = [] ∨ Encodes t t.enc := by
  by_cases hc : t.closed = true
  · exact Or.inr (Secs.enc_sound t hw hc)
  · exact Or.inl (open_item_no_bytes t (by simpa using hc))

/-- E37 frame of a complete message -/
theorem frame (m : Msg) (hv : m.valid = true) (hc : m.complete = true) :
    ∃ a b c d, m.sysBytes = [a, b, c, d] ∧
    m.enc = beEnc 4 (10 + m.item.enc.length) ++
      [m.sessionID.toNat / 256 % 256, m.sessionID.toNat % 256,
       (if m.waitBit = 1 then 128 else 0) + m.stream.toNat, m.function.toNat, 0, 0] ++
      [a, b, c, d] ++ m.item.enc := by
  obtain ⟨_, hs, hf, _, _, _, hsys, _⟩ := (Msg.valid_iff m).mp hv
  obtain ⟨a, b, c, d, hsb⟩ := length4 m.sysBytes hsys
  refine ⟨a, b, c, d, hsb, ?_⟩
  rw [enc_frame m hc a b c d hsb, Nat.add_comm 10]
  -- the bounds by `Int.toNat_lt`: `omega` on `toNat` and `%` together is several times dearer
  have h1 : m.function.toNat % 256 = m.function.toNat := Nat.mod_eq_of_lt ((Int.toNat_lt hf.1).mpr hf.2)
  have hs' : m.stream.toNat < 128 := (Int.toNat_lt hs.1).mpr hs.2
  have h2 : (m.stream.toNat + (if m.waitBit == 1 then 128 else 0)) % 256
      = (if m.waitBit = 1 then 128 else 0) + m.stream.toNat := by
    rw [Nat.add_comm, Nat.mod_eq_of_lt (by split <;> omega)]
    simp only [beq_iff_eq]
  rw [h1, h2]
  simp

/-- a message that is not complete (optional wait bit, unfilled variable, no session id)
encodes to the empty byte string -/
theorem incomplete_empty (m : Msg) (h : m.complete = false) : m.enc = [] := by
  simp [Msg.enc, h]

/-- what "complete" means -/
theorem complete_iff (m : Msg) :
    m.complete = true ↔ (m.waitBit ≠ 2 ∧ m.item.vars = [] ∧ m.sessionID ≠ -1) := by
  simp [Msg.complete, and_assoc]

/-! ### the tie to the source: tables by value -/

theorem facts_tables :
    Generated.maxByteSize = (limit : Int) ∧ Generated.tableKeysOk = true ∧
    Generated.bytePerValue = Fmt.all.map (fun f => (f.width : Int)) ∧
    Generated.formatCode = Fmt.all.map (fun f => (f.code : Int)) := by decide

/-! ### non-vacuity -/

example : Encodes (.list (.item (.uint 1 [.val 7]) (.item (.ascii [65, 66]) .nil)))
    [0x01, 2, 0xA5, 1, 7, 0x41, 2, 65, 66] := by
  have := Secs.enc_sound (.list (.item (.uint 1 [.val 7]) (.item (.ascii [65, 66]) .nil))) (by decide) (by decide)
  simpa [Tmpl.enc, Slots.enc, headerBytes, withHeader, slotVals, beEnc, dataByteLength, Fmt.width, Fmt.code,
    maxByteSize, Slots.len, uintFmt?] using this

end Secs.C02
