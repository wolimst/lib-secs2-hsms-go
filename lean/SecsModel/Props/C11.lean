/-
C11 — items and messages are immutable; no aliasing with caller data.

The logic part: an abstract heap machine. Byte arrays live at addresses; an object (item,
message, control message) holds the addresses of its slice-typed fields; the caller holds the
addresses of every slice it passed in or got back and may overwrite those arrays at any time.
Each kind of API operation is characterised by what it does with addresses (copy / share with
another object / hand out). `Op.disciplined` is what the fact extractor certifies about the code:
no operation stores a caller's slice, no operation hands out a field. Under it, for every
history whatsoever, no object ever reaches an address the caller holds (`Inv`, kept by `inv_step`),
hence no caller write and no operation changes what any existing object shows (`stable`).
Sharing between immutable objects (SetWaitBit, FillVariables reuse the system-bytes array) is
allowed by the discipline, exactly because nothing can write to a shared array.

What this theorem cannot exhibit: physical memory (capacity beyond length, append in place).
That part is checked on the real code by the `alias` engine of the harness (random histories).
-/
import SecsModel.Generated.Facts
namespace Secs.C11

structure St where
  heap : List (List Nat)       -- array at address i
  objs : List (List Nat)      -- object = addresses of its slice fields
  held : List Nat             -- addresses the caller can write to

/-- what an operation does with the addresses involved -/
inductive Op where
  /-- caller allocates an array it holds (to pass it in later) -/
  | callerAlloc (bytes : List Nat)
  /-- constructor called with caller-held array `a`; `store` = keeps the caller's slice itself -/
  | construct (a : Nat) (store : Bool)
  /-- producer: new object from object `o`; `share` = reuses o's array, else copies -/
  | derive (o : Nat) (share : Bool)
  /-- accessor / encoder on object `o`; `expose` = returns the field itself, else a fresh copy -/
  | access (o : Nat) (expose : Bool)
  /-- the caller overwrites element i of an array it holds -/
  | callerWrite (a : Nat) (i : Nat) (v : Nat)

/-- the discipline certified by the extracted facts -/
def Op.disciplined : Op → Bool
  | .construct _ store => !store
  | .access _ expose => !expose
  | _ => true

def setAt (l : List Nat) (i v : Nat) : List Nat := l.set i v

def step (s : St) : Op → St
  | .callerAlloc b => { s with heap := s.heap ++ [b], held := s.heap.length :: s.held }
  | .construct a store =>
    if a ∈ s.held then
      if store then { s with objs := s.objs ++ [[a]] }
      else { s with heap := s.heap ++ [s.heap.getD a []], objs := s.objs ++ [[s.heap.length]] }
    else s
  | .derive o share =>
    match s.objs[o]? with
    | none => s
    | some fields =>
      if share then { s with objs := s.objs ++ [fields] }
      else { s with heap := s.heap ++ [s.heap.getD (fields.headD 0) []], objs := s.objs ++ [[s.heap.length]] }
  | .access o expose =>
    match s.objs[o]? with
    | none => s
    | some fields =>
      if expose then { s with held := fields ++ s.held }
      else { s with heap := s.heap ++ [s.heap.getD (fields.headD 0) []], held := s.heap.length :: s.held }
  | .callerWrite a i v =>
    if a ∈ s.held then { s with heap := s.heap.set a (setAt (s.heap.getD a []) i v) } else s

/-- what an object shows: the contents of its arrays -/
def observe (s : St) (fields : List Nat) : List (List Nat) := fields.map (fun a => s.heap.getD a [])

/-- invariant: no object field is an address the caller holds, and all addresses are allocated -/
def Inv (s : St) : Prop :=
  (∀ fs ∈ s.objs, ∀ a ∈ fs, a ∉ s.held ∧ a < s.heap.length) ∧ (∀ a ∈ s.held, a < s.heap.length)

theorem inv_init : Inv ⟨[], [], []⟩ := by simp [Inv]

theorem observe_push (s s' : St) (x : List Nat) (hh : s'.heap = s.heap ++ [x]) (fs : List Nat)
    (h : ∀ a ∈ fs, a < s.heap.length) : observe s' fs = observe s fs := by
  simp only [observe, hh]
  exact List.map_congr_left fun a ha => by
    simp [List.getD_eq_getElem?_getD, List.getElem?_append_left (h a ha)]

theorem inv_push_held (s : St) (x : List Nat) (hi : Inv s) :
    Inv { s with heap := s.heap ++ [x], held := s.heap.length :: s.held } := by
  obtain ⟨h1, h2⟩ := hi
  simp only [Inv, List.mem_cons, List.length_append, List.length_singleton]
  refine ⟨fun fs hfs a ha => ⟨?_, by have := (h1 fs hfs a ha).2; omega⟩, ?_⟩
  · rintro (h | h)
    · have := (h1 fs hfs a ha).2; omega
    · exact (h1 fs hfs a ha).1 h
  · rintro a (h | h)
    · omega
    · have := h2 a h; omega

theorem inv_push_obj (s : St) (x : List Nat) (hi : Inv s) :
    Inv { s with heap := s.heap ++ [x], objs := s.objs ++ [[s.heap.length]] } := by
  obtain ⟨h1, h2⟩ := hi
  simp only [Inv, List.mem_append, List.mem_singleton, List.length_append, List.length_singleton]
  refine ⟨?_, fun a ha => by have := h2 a ha; omega⟩
  rintro fs (hfs | rfl) a ha
  · exact ⟨(h1 fs hfs a ha).1, by have := (h1 fs hfs a ha).2; omega⟩
  · rw [List.mem_singleton.mp ha]
    exact ⟨fun hc => by have := h2 _ hc; omega, by omega⟩

/-- one disciplined step preserves the invariant and changes no existing object's observation -/
theorem inv_step (s : St) (op : Op) (hd : op.disciplined = true) (hi : Inv s) :
    Inv (step s op) ∧ ∀ fs ∈ s.objs, observe (step s op) fs = observe s fs := by
  have hlt : ∀ fs ∈ s.objs, ∀ a ∈ fs, a < s.heap.length := fun fs hfs a ha => (hi.1 fs hfs a ha).2
  have same : Inv s ∧ ∀ fs ∈ s.objs, observe s fs = observe s fs := ⟨hi, fun _ _ => rfl⟩
  cases op with
  | callerAlloc b => exact ⟨inv_push_held s b hi, fun fs hfs => observe_push s _ b rfl fs (hlt fs hfs)⟩
  | construct a store =>
    simp only [Op.disciplined, Bool.not_eq_true'] at hd
    subst hd
    simp only [step]
    split
    · exact ⟨inv_push_obj s _ hi, fun fs hfs => observe_push s _ _ rfl fs (hlt fs hfs)⟩
    · exact same
  | derive o share =>
    simp only [step]
    split
    · exact same
    · rename_i fields ho
      split
      · refine ⟨⟨?_, hi.2⟩, fun _ _ => rfl⟩
        intro fs hfs
        rcases List.mem_append.mp hfs with hfs | hfs
        · exact hi.1 fs hfs
        · rw [List.mem_singleton.mp hfs]; exact hi.1 fields (List.mem_of_getElem? ho)
      · exact ⟨inv_push_obj s _ hi, fun fs hfs => observe_push s _ _ rfl fs (hlt fs hfs)⟩
  | access o expose =>
    simp only [Op.disciplined, Bool.not_eq_true'] at hd
    subst hd
    simp only [step]
    split
    · exact same
    · exact ⟨inv_push_held s _ hi, fun fs hfs => observe_push s _ _ rfl fs (hlt fs hfs)⟩
  | callerWrite a i v =>
    simp only [step]
    split
    · rename_i hh
      refine ⟨⟨fun fs hfs b hb => by simpa using hi.1 fs hfs b hb, fun b hb => by simpa using hi.2 b hb⟩, ?_⟩
      intro fs hfs
      simp only [observe]
      apply List.map_congr_left
      intro b hb
      have hne : a ≠ b := fun e => (hi.1 fs hfs b hb).1 (e ▸ hh)
      simp [List.getD_eq_getElem?_getD, List.getElem?_set_ne hne]
    · exact same

/-- objects are never removed: an existing object is still there after a step -/
theorem objs_mono (s : St) (op : Op) : ∀ fs ∈ s.objs, fs ∈ (step s op).objs := by
  intro fs hfs
  cases op with
  | callerAlloc b => exact hfs
  | construct a store =>
    simp only [step]
    split
    · split <;> simp [hfs]
    · exact hfs
  | derive o share =>
    simp only [step]
    split
    · exact hfs
    · split <;> simp [hfs]
  | access o expose =>
    simp only [step]
    split
    · exact hfs
    · split <;> exact hfs
  | callerWrite a i v =>
    simp only [step]
    split <;> exact hfs

/-- for every history of disciplined operations interleaved with arbitrary caller writes, every
object that exists at some point shows the same contents for ever after -/
theorem stable (s : St) (ops : List Op) (hd : ∀ op ∈ ops, op.disciplined = true) (hi : Inv s) :
    Inv (ops.foldl step s) ∧ ∀ fs ∈ s.objs, observe (ops.foldl step s) fs = observe s fs := by
  induction ops generalizing s with
  | nil => exact ⟨hi, fun _ _ => by first | rfl | trivial⟩
  | cons op r ih =>
    have h1 := inv_step s op (hd op (by simp)) hi
    have h2 := ih (step s op) (fun o ho => hd o (by simp [ho])) h1.1
    refine ⟨h2.1, fun fs hfs => ?_⟩
    rw [List.foldl_cons, h2.2 fs (objs_mono s op fs hfs), h1.2 fs hfs]

/-- without the discipline the invariant is lost: an accessor that hands out the field lets the
caller change the object (defect D5 of DESIGN.md is exactly this: `SystemBytes()` handing out the
field) -/
example :
    let s0 : St := ⟨[[0, 0, 0, 0]], [[0]], []⟩
    let s1 := step (step s0 (.access 0 true)) (.callerWrite 0 0 99)
    observe s1 [0] ≠ observe s0 [0] := by decide

/-- the discipline holds of the code (facts extracted from the source): no accessor returns a
slice/map field, no constructor stores a caller's slice or an unclassified value, nothing writes
through a receiver or parameter (outside the per-call scratch types), and the only sharing between
objects is the immutable system-bytes array in the two producers -/
theorem facts_discipline :
    Generated.exposedFields = [] ∧ Generated.storedParams = [] ∧ Generated.unknownStores = [] ∧
    Generated.receiverWrites = [] ∧
    Generated.sharedFields = ["ast.DataMessage.SetWaitBit: DataMessage.systemBytes = node systemBytes",
                              "ast.DataMessage.FillVariables: DataMessage.systemBytes = node systemBytes"] := by
  decide

end Secs.C11
