/-
C08 — comments, whitespace and letter case never change what is parsed.

Proved on the lexer and parser models (lexing is independent of parsing, so what holds for the
token stream holds for valid and invalid messages alike):
 * a comment's text is whatever stands between `//` and the line end — any bytes at all — and the
   lexer resumes at the line end in the mode it was in, having emitted only a comment token, which
   the parser drops (`comment_any_bytes`, `comment_token_header/text`, `comment_one_token`,
   `comment_invisible`); trailing blanks, tabs and CRs are not part of it (`comment_trim`);
 * the token stream depends on the lexer state only through the unread input (`lexFuel_erase`); a
   run of blanks where the lexer looks for the next token is invisible, and any run can replace
   any other (`blank_run_invisible`, `blank_runs_equivalent`);
 * at every token boundary the lexer reaches (`Reach`), replacing the blank run there by another
   one, or putting a comment line there, leaves the parsed content unchanged
   (`layout_invariance_at_boundary`, `boundary_blank_runs`, `boundary_comment`);
 * the parser's outcome does not depend on token positions, and diagnostics move with the tokens
   they point at (`positions_irrelevant`, `diagnostics_move_with_tokens`);
 * keywords, type names, booleans, the stream/function token, the wait bit and the direction are
   classified and valued through their upper-case form (`keyword_case`, `header_tokens_upper`).
* anywhere in a text, behind any line break that does not stand inside a size declaration (the
   text up to it is lexed without a lexing error): a comment line with any bytes can be put
   there, and the white space that follows - indentation, blank lines - can be replaced by any
   other, without changing what is parsed, valid or not (`edit_behind_line_break`,
   `comment_line_anywhere`, `blank_run_at_line_start`; the case of a line break of the next
   point);
* inside a line, at any point where white space stands outside a string, a size declaration and a
   comment (the text up to there, cut off by a line break, is lexed without a lexing error and no
   `//` is open): the white space can be replaced by any other non-empty run of blanks, tabs, CRs
   and line breaks, and a comment with any bytes can be put at the end of a line behind a blank,
   without changing what is parsed - valid or not (`blank_runs_between_tokens`,
   `comment_at_line_end`; from the locality of the lexer in front of any blank,
   `Lex.lexFrom_blank`). These and the edits behind a line break are instances of one principle,
   `edit_behind_blank`: behind a blank, continuations that are lexed alike give texts that are
   lexed alike;
 * every token carries the position of its first byte (`Lex.lexAll_positions`, Proofs/Lexer), so with
   `diagnostics_move_with_tokens` diagnostics move with the tokens they point at.
`layout_invariance_partial` - what is not a theorem: gaps of width zero (two tokens that touch
against the same tokens separated - which pairs may touch is a matter of the token classes), a
comment directly behind a token without a blank in between, and the letter case of number prefixes
and exponents as far as the lexer is concerned (`integer_literal_case` covers the value read from an
integer literal; `keyword_case` and `header_tokens_upper` concern keywords, type names, booleans and
header tokens). These are exercised by the metamorphic layout suite on the real code and by the
correspondence run on both renderings.
-/
import SecsModel.Model.Lexer
import SecsModel.Proofs.LexLayout
import SecsModel.Proofs.ParserNat
import SecsModel.Proofs.LexConcat
import SecsModel.Generated.Facts
import SecsModel.Proofs.NumCase
namespace Secs.C08
open Secs Secs.Lex Secs.Sml

/-- a comment is everything up to the line end, whatever bytes it contains -/
theorem comment_any_bytes (c r : Bytes) (hc : ∀ x ∈ c, x ≠ 10) :
    scanComment (47 :: 47 :: c ++ 10 :: r) = (trimRight (fun b => b == 32 || b == 9 || b == 13) (47 :: 47 :: c), false) :=
  scanComment_at (47 :: 47 :: c) r (by simpa using hc)

/-- the comment ends the input when no line end follows -/
theorem comment_at_eof (c : Bytes) (hc : ∀ x ∈ c, x ≠ 10) : scanComment (47 :: 47 :: c) = (47 :: 47 :: c, true) := by
  unfold scanComment
  have h : spanB (· != 10) (47 :: 47 :: c) = (47 :: 47 :: c, []) := by
    have : ∀ l : Bytes, (∀ x ∈ l, x ≠ 10) → spanB (· != 10) l = (l, []) := by
      intro l hl
      induction l with
      | nil => rfl
      | cons x xs ih =>
        have hx : (x != 10) = true := by simpa using hl x (by simp)
        simp [spanB, hx, ih (fun y hy => hl y (by simp [hy]))]
    exact this _ (by simpa using hc)
  rw [h]

/-- trailing blanks, tabs and CRs are cut off the comment; nothing else is -/
theorem comment_trim (body : Bytes) (last : Nat) (h : (last == 32 || last == 9 || last == 13) = false) :
    trimRight (fun b => b == 32 || b == 9 || b == 13) (body ++ [last]) = body ++ [last] := by
  simp [trimRight, List.reverse_append, h]

/-- in the header state a comment yields exactly one comment token and the state is kept -/
theorem comment_token_header (p : Pos) (c r : Bytes) (hp : p.rest = 47 :: 47 :: c ++ 10 :: r) :
    stepHeader p = .tok (mkTok .comment (scanComment p.rest).1 p) .header (advance p (scanComment p.rest).1) := by
  unfold stepHeader
  rw [hp]
  simp [startsWith, emit]

/-- … and so it does inside the message text -/
theorem comment_token_text (ual : List Nat) (p : Pos) (c r : Bytes) (hp : p.rest = 47 :: 47 :: c ++ 10 :: r) :
    stepText ual p = .tok (mkTok .comment (scanComment p.rest).1 p) .text (advance p (scanComment p.rest).1) := by
  unfold stepText
  rw [hp]
  simp [startsWith, emit]

/-- one blank more before a token: the lexer skips it and only the position moves -/
theorem blank_skipped (m : Mode) (fuel : Nat) (p : Pos) (b : Nat) (r : Bytes) (hb : isBlank b = true)
    (hp : p.rest = b :: r) : skipWs m (fuel + 1) p = skipWs m fuel (advance p [b]) := by
  rw [skipWs, hp]
  simp [hb]

/-- classification and value of words go through the upper-case form only -/
theorem keyword_case (w w' : Bytes) (h : upper w = upper w') :
    (typeKeywords.contains (upper w) = typeKeywords.contains (upper w')) ∧
    (boolKeywords.contains (upper w) = boolKeywords.contains (upper w')) := by
  rw [h]; exact ⟨rfl, rfl⟩

theorem toUpper_idem (b : Nat) : toUpperB (toUpperB b) = toUpperB b := by
  unfold toUpperB isLowerB
  by_cases h : (decide (97 ≤ b) && decide (b ≤ 122)) = true
  · simp only [h, if_true]
    have : ¬ ((decide (97 ≤ b - 32) && decide (b - 32 ≤ 122)) = true) := by
      simp only [Bool.and_eq_true, decide_eq_true_eq] at h ⊢; omega
    rw [if_neg this]
  · simp [h]

theorem upper_idem (bs : Bytes) : upper (upper bs) = upper bs := by
  simp only [upper, List.map_map]
  apply List.map_congr_left
  intro b _
  exact toUpper_idem b

/-- the header tokens carry their upper-case text whatever case was written -/
theorem header_tokens_upper (p : Pos) (v : Bytes) (h : matchSF p.rest = some v)
    (hc : startsWith [47, 47] p.rest = false) (hne : p.rest ≠ []) :
    ∃ t m q, stepHeader p = .tok t m q ∧ t.kind = .streamFunction ∧ t.val = upper v := by
  unfold stepHeader
  cases hr : p.rest with
  | nil => exact absurd hr hne
  | cons b r =>
    rw [hr] at h hc
    simp only [hc, Bool.false_eq_true, if_false, h]
    exact ⟨_, _, _, rfl, rfl, rfl⟩

/-! ### whole texts: what the parser returns is independent of layout

`Outcome.content` is what a parse says apart from positions: the messages, the error texts and
the warning texts, in order. -/

def notComment (t : Tok) : Bool := t.kind != .comment

theorem parse_eq (ual : List Nat) (input : Bytes) :
    parse ual input = parseToks ((lexFrom ual .header input).filter notComment) := rfl

/-- two texts whose comment-free token streams agree up to positions parse alike -/
theorem parse_content_eq (ual : List Nat) (in1 in2 : Bytes)
    (h : ((lexFrom ual .header in1).map eraseT).filter notComment = ((lexFrom ual .header in2).map eraseT).filter notComment) :
    (parse ual in1).content = (parse ual in2).content :=
  content_of_filter_erased notComment (fun _ => rfl) _ _ h

/-- Any amount and kind of white space (blanks, tabs, CR, LF) in front of a text changes
nothing in what is parsed. -/
theorem leading_blanks_invisible (ual : List Nat) (ws y : Bytes) (hws : ∀ b ∈ ws, isBlank b = true) :
    (parse ual (ws ++ y)).content = (parse ual y).content :=
  parse_content_eq ual _ _ (by rw [blank_run_invisible ual .header ws y hws])

/-- A comment line with any bytes in front of a text changes nothing in what is parsed. -/
theorem leading_comment_invisible (ual : List Nat) (c y : Bytes) (hc : ∀ x ∈ c, x ≠ 10) :
    (parse ual (47 :: 47 :: c ++ 10 :: y)).content = (parse ual y).content :=
  parse_content_eq ual _ _ (comment_invisible ual .header c y hc)

/-- the lexer, started in `(m, p)`, emits `ts` and stands in `(m', p')` -/
inductive Reach (ual : List Nat) : Mode → Pos → List Tok → Mode → Pos → Prop
  | refl (m : Mode) (p : Pos) : Reach ual m p [] m p
  | step {m m1 m' : Mode} {p p1 p' : Pos} {t : Tok} {ts : List Tok} :
      lexStep ual m p = .tok t m1 p1 → Reach ual m1 p1 ts m' p' → Reach ual m p (t :: ts) m' p'

theorem reach_stream (ual : List Nat) {m m' : Mode} {p p' : Pos} {ts : List Tok} (h : Reach ual m p ts m' p') :
    ∀ fuel, p.rest.length < fuel →
      (lexFuel ual fuel m p).map eraseT = ts.map eraseT ++ (lexFrom ual m' p'.rest).map eraseT := by
  induction h with
  | refl m p => intro fuel hf; simpa using lexFuel_eq_lexFrom ual m p fuel hf
  | step hs _ ih =>
    intro fuel hf
    cases fuel with
    | zero => omega
    | succ n =>
      rw [lexFuel, hs]
      have hd := lexStep_decreases ual _ _ _ _ _ hs
      simp only [List.map_cons, List.cons_append]
      rw [ih n (by omega)]

/-- **Layout invariance at a token boundary.** Two texts are lexed until the lexer looks for the
next token; so far they gave the same tokens (positions aside). From there one continues with a
run of white space, the other with another run, or with a comment line of any content, and
then both continue with the same text `y`. Then both parse to the same messages and the same
diagnostic texts. -/
theorem layout_invariance_at_boundary (ual : List Nat) (in1 in2 : Bytes) (ts1 ts2 : List Tok) (m : Mode)
    (p1 p2 : Pos)
    (r1 : Reach ual .header ⟨in1, 1, []⟩ ts1 m p1) (r2 : Reach ual .header ⟨in2, 1, []⟩ ts2 m p2)
    (hts : ts1.map eraseT = ts2.map eraseT)
    (h : ((lexFrom ual m p1.rest).map eraseT).filter notComment = ((lexFrom ual m p2.rest).map eraseT).filter notComment) :
    (parse ual in1).content = (parse ual in2).content := by
  apply parse_content_eq
  unfold lexFrom
  rw [reach_stream ual r1 _ (by simp), reach_stream ual r2 _ (by simp), hts]
  simp only [List.filter_append, h]

/-- the two instances of the hypothesis `h` above -/
theorem boundary_blank_runs (ual : List Nat) (m : Mode) (ws ws' y : Bytes)
    (h : ∀ b ∈ ws, isBlank b = true) (h' : ∀ b ∈ ws', isBlank b = true) :
    ((lexFrom ual m (ws ++ y)).map eraseT).filter notComment = ((lexFrom ual m (ws' ++ y)).map eraseT).filter notComment := by
  rw [blank_runs_equivalent ual m ws ws' y h h']

theorem boundary_comment (ual : List Nat) (m : Mode) (ws c y : Bytes) (hws : ∀ b ∈ ws, isBlank b = true)
    (hc : ∀ x ∈ c, x ≠ 10) :
    ((lexFrom ual m (ws ++ (47 :: 47 :: c ++ 10 :: y))).map eraseT).filter notComment =
      ((lexFrom ual m (10 :: y)).map eraseT).filter notComment := by
  rw [blank_run_invisible ual m ws _ hws, show 10 :: y = [10] ++ y from rfl, blank_run_invisible ual m [10] y (by simp [isBlank])]
  exact comment_invisible ual m c y hc

/-! ### edits between lines, anywhere in a text (lexer locality, Proofs/LexConcat) -/

/-- **An edit behind a blank.** `u`, cut off by a line break, is lexed (from mode `m`) without a lexing
error, and `u` is followed by a blank: a line break, or any blank when no comment is open at the end of
`u`. If two continuations are lexed alike (comments aside) in whatever mode, then so are the whole
texts - the blank in front of them may differ too. -/
theorem edit_behind_blank (ual : List Nat) (m : Mode) (u : Bytes) (w1 w2 : Nat) (y1 y2 : Bytes)
    (hw1 : isBlank w1 = true) (hw2 : isBlank w2 = true) (hC1 : COK w1 u) (hC2 : COK w2 u)
    (hne : ∀ t ∈ (lexFrom ual m (u ++ [10])).map eraseT, t.kind ≠ .error)
    (h : ∀ m', ((lexFrom ual m' y1).map eraseT).filter notComment = ((lexFrom ual m' y2).map eraseT).filter notComment) :
    ((lexFrom ual m (u ++ w1 :: y1)).map eraseT).filter notComment =
      ((lexFrom ual m (u ++ w2 :: y2)).map eraseT).filter notComment := by
  obtain ⟨ts1, a1, a2, _⟩ := lexFrom_blank ual y1 w1 hw1 u.length u m (Nat.le_refl _) hne hC1
  obtain ⟨ts2, b1, b2, _⟩ := lexFrom_blank ual y2 w2 hw2 u.length u m (Nat.le_refl _) hne hC2
  -- both streams begin with the tokens of `u ++ [10]`
  cases List.append_cancel_right (a1.symm.trans b1)
  rw [a2, b2, List.filter_append, List.filter_append, h]

/-- **An edit behind a line break.** `x` ends with a line break and is lexed (from mode `m`)
without a lexing error - the line break does not stand inside a size declaration. If two
continuations are lexed alike (comments aside) in whatever mode, then so are the whole texts. -/
theorem edit_behind_line_break (ual : List Nat) (m : Mode) (x y1 y2 : Bytes) (hx : EndsLF x)
    (hne : ∀ t ∈ (lexFrom ual m x).map eraseT, t.kind ≠ .error)
    (h : ∀ m', ((lexFrom ual m' y1).map eraseT).filter notComment = ((lexFrom ual m' y2).map eraseT).filter notComment) :
    ((lexFrom ual m (x ++ y1)).map eraseT).filter notComment = ((lexFrom ual m (x ++ y2)).map eraseT).filter notComment := by
  obtain ⟨u, rfl⟩ := hx
  simp only [List.append_assoc, List.singleton_append]
  exact edit_behind_blank ual m u 10 10 y1 y2 rfl rfl (.inl rfl) (.inl rfl) hne h

/-- a comment line with any bytes, put between any two lines of a text, changes nothing in what
is parsed (valid or not) -/
theorem comment_line_anywhere (ual : List Nat) (x c y : Bytes) (hx : EndsLF x)
    (hne : ∀ t ∈ (lexFrom ual .header x).map eraseT, t.kind ≠ .error) (hc : ∀ b ∈ c, b ≠ 10) :
    (parse ual (x ++ (47 :: 47 :: c ++ 10 :: y))).content = (parse ual (x ++ y)).content :=
  parse_content_eq ual _ _ (edit_behind_line_break ual .header x _ _ hx hne (fun m' => comment_invisible ual m' c y hc))

/-- the white space at the start of any line - indentation, blank lines, a CR - can be replaced by
any other run of blanks, tabs, CRs and line breaks without changing what is parsed -/
theorem blank_run_at_line_start (ual : List Nat) (x ws ws' y : Bytes) (hx : EndsLF x)
    (hne : ∀ t ∈ (lexFrom ual .header x).map eraseT, t.kind ≠ .error)
    (h : ∀ b ∈ ws, isBlank b = true) (h' : ∀ b ∈ ws', isBlank b = true) :
    (parse ual (x ++ (ws ++ y))).content = (parse ual (x ++ (ws' ++ y))).content :=
  parse_content_eq ual _ _ (edit_behind_line_break ual .header x _ _ hx hne
    (fun m' => by rw [blank_runs_equivalent ual m' ws ws' y h h']))

/-! ### white space between two tokens of a line, a comment behind the last token of a line
(lexer locality in front of any blank, Proofs/LexCut, LexConcat) -/

/-- **White space between two tokens, anywhere in a text.** `u` is the text up to a point where
white space stands; cut off there by a line break it is lexed without a lexing error (the point is
not inside a string or a size declaration), and no comment is open at its end. Then the white
space that follows - any non-empty run of blanks, tabs, CRs and line breaks - can be replaced by
any other non-empty run without changing what is parsed, whatever comes after it, valid or not. -/
theorem blank_runs_between_tokens (ual : List Nat) (u : Bytes) (w1 w2 : Nat) (s1 s2 v : Bytes)
    (hw1 : isBlank w1 = true) (hw2 : isBlank w2 = true)
    (hs1 : ∀ b ∈ s1, isBlank b = true) (hs2 : ∀ b ∈ s2, isBlank b = true)
    (hne : ∀ t ∈ (lexFrom ual .header (u ++ [10])).map eraseT, t.kind ≠ .error)
    (hC : ∀ s, s <:+ u → startsWith [47, 47] s = true → 10 ∈ s) :
    (parse ual (u ++ w1 :: (s1 ++ v))).content = (parse ual (u ++ w2 :: (s2 ++ v))).content :=
  parse_content_eq ual _ _ (edit_behind_blank ual .header u w1 w2 _ _ hw1 hw2 (.inr hC) (.inr hC) hne
    fun m' => by rw [blank_runs_equivalent ual m' s1 s2 v hs1 hs2])

/-- **A comment behind the last token of a line.** Under the same conditions a comment with any
bytes can be put at the end of the line, behind a blank: the line `… <blank>//…` parses like the
line without it. -/
theorem comment_at_line_end (ual : List Nat) (u : Bytes) (w : Nat) (c v : Bytes) (hw : isBlank w = true)
    (hc : ∀ b ∈ c, b ≠ 10)
    (hne : ∀ t ∈ (lexFrom ual .header (u ++ [10])).map eraseT, t.kind ≠ .error)
    (hC : ∀ s, s <:+ u → startsWith [47, 47] s = true → 10 ∈ s) :
    (parse ual (u ++ w :: (47 :: 47 :: c ++ 10 :: v))).content = (parse ual (u ++ 10 :: v)).content :=
  parse_content_eq ual _ _ (edit_behind_blank ual .header u w 10 _ _ hw rfl (.inr hC) (.inl rfl) hne
    fun m' => comment_invisible ual m' c v hc)

/-! non-vacuity (tests): a text up to the blank behind a size declaration, a string with blanks
and a hexadecimal literal meets the hypotheses of the two theorems above -/

def sampleUpTo : Bytes := str "s1f1 w // c\n<l [2] <a \"x y\"> <u1 0x1f>"
example : ∀ t ∈ (lexFrom [] .header (sampleUpTo ++ [10])).map eraseT, t.kind ≠ .error := by decide +kernel

/-! ### tie to the source: what the two main states skip, and the comment trimming set -/

theorem facts_whitespace :
    Generated.lexHeaderRuneCases = [[32, 9, 13, 10]] ∧ Generated.lexTextRuneCases = [[32, 9, 13, 10]] := by decide

/-! ### non-vacuity (tests): a comment ending in the UTF-8 bytes of "à" (… 0xA0), in \v, in NEL -/

example : (lexAll [] (str "S1F1 W // voil\xc3\xa0\n.")).map (·.kind) = [.streamFunction, .waitBit, .comment, .msgEnd, .eof] := by
  decide +kernel

example : ((lexAll [] (str "S1F1 <A \"x\"> // 100% \x0b\n.")).filter (·.kind != .comment)).map (·.kind)
    = ((lexAll [] (str "S1F1 <A \"x\">\n.")).map (·.kind)) := by decide +kernel

/-! ### letter case inside integer literals -/

/-- **the value of an integer literal does not depend on letter case**: two spellings that differ
only in the case of letters (`0x1f`, `0X1F`, `0X1f`; `0b101`, `0B101`; `0o17`, `0O17`) are read by
`ParseInt` and `ParseUint` to the same value with the same error, for every base argument and
every width - the reading of I*, U*, B items and of character codes in A items. (That the lexer
takes the same characters as one number token in either case is decided by the metamorphic oracle.) -/
theorem integer_literal_case (s1 s2 : Bytes) (h : s1.map Strconv.lowerB = s2.map Strconv.lowerB) (base bits : Nat) :
    Strconv.parseInt s1 base bits = Strconv.parseInt s2 base bits ∧
    Strconv.parseUint s1 base bits = Strconv.parseUint s2 base bits :=
  ⟨Strconv.parseInt_same_lower s1 s2 h base bits, Strconv.parseUint_same_lower s1 s2 h base bits⟩

/-- non-vacuity (a test): `0X1F` and `0x1f` -/
example : (str "0X1F").map Strconv.lowerB = (str "0x1f").map Strconv.lowerB ∧
    (Strconv.parseUint (str "0X1F") 0 8).val = 31 := by decide +kernel

end Secs.C08
