/-
C03 — the HSMS decoder accepts exactly well-formed messages and decodes them exactly.

Proved here: every acceptance condition of the statement is necessary (declared message length =
bytes present, PType 0, defined SType, control messages are exactly a header, nothing left over
after the item, no length byte count 0, payload present, W-bit only on odd functions), every
encoding the library produces is accepted and decoded to the same message (C01), and the
result of decoding is a fixed point of encode→decode.

The item level is characterised completely against `Spec.Denotes`, the lenient reading relation
(1, 2 or 3 length bytes, minimal or not; any non-zero boolean byte; 7-bit characters; finite
floats; whole numbers of values): `item_sound`, `item_complete`, `item_functional`; and the
message level by `accept_iff`: a byte string is accepted iff it is one well-formed HSMS message
(`WellFormed`).
-/
import SecsModel.Props.C01
import SecsModel.Proofs.DecodeWF
namespace Secs.C03
open Secs

/-- acceptance implies: at least 14 bytes, declared length = bytes present, PType 0 -/
theorem accepted_frame (inp : Bytes) (m : HMsg) (h : decode inp = some m) :
    14 ≤ inp.length ∧ beDec (inp.take 4) + 4 = inp.length ∧ inp.getD 8 0 = 0 :=
  (frameOk_iff inp).mp ((decode_eq_some inp m).mp h).1

/-- acceptance implies a defined SType -/
theorem accepted_stype (inp : Bytes) (m : HMsg) (h : decode inp = some m) :
    inp.getD 9 0 = 0 ∨ (1 ≤ inp.getD 9 0 ∧ inp.getD 9 0 ≤ 7) ∨ inp.getD 9 0 = 9 :=
  ((decode_eq_some inp m).mp h).2.imp (·.1) (·.1)

/-- an accepted control message is exactly a 10-byte header -/
theorem accepted_ctrl (inp : Bytes) (hd : Bytes) (h : decode inp = some (.ctrl hd)) : inp.length = 14 := by
  obtain ⟨hf, h | h⟩ := (decode_eq_some inp _).mp h
  · obtain ⟨_, _, e, _⟩ := decodeData_some inp _ h.2
    cases e
  · have := (frameOk_iff inp).mp hf
    have := ((decodeCtrl_eq_some inp _).mp h.2).1
    omega

/-- every encoding the library produces for a complete message is accepted, and decoded to the
same message -/
theorem accepts_own_encodings (m : Msg) (h : C01.Complete m) : decode m.enc = some (.data (C01.decoded m)) :=
  C01.roundtrip m h

/-- the four length bytes fix the length of whatever is accepted -/
theorem accepted_length_unique (b b' : Bytes) (x x' : HMsg) (h : decode b = some x) (h' : decode b' = some x')
    (h4 : b.take 4 = b'.take 4) : b.length = b'.length := by
  have hf := (accepted_frame b x h).2.1
  have hf' := (accepted_frame b' x' h').2.1
  rw [h4] at hf
  omega

theorem extension_rejected (b : Bytes) (x : HMsg) (h : decode b = some x) (extra : Bytes) (he : extra ≠ []) :
    decode (b ++ extra) = none := by
  cases hd : decode (b ++ extra) with
  | none => rfl
  | some x' =>
    have h14 := (accepted_frame b x h).1
    have hl := accepted_length_unique _ _ _ _ h hd (by rw [List.take_append_of_le_length (by omega)])
    rw [List.length_append] at hl
    exact absurd (List.length_eq_zero_iff.mp (by omega)) he

theorem prefix_rejected (b : Bytes) (x : HMsg) (h : decode b = some x) (k : Nat) (hk : k < b.length) :
    decode (b.take k) = none := by
  cases hd : decode (b.take k) with
  | none => rfl
  | some x' =>
    have h14 := (accepted_frame _ x' hd).1
    rw [List.length_take] at h14
    have hl := accepted_length_unique _ _ _ _ hd h (by rw [List.take_take]; congr 1; omega)
    rw [List.length_take] at hl
    omega

/-- bytes appended to a valid encoding are never ignored: the result is a failure -/
theorem trailing_bytes_rejected (m : Msg) (h : C01.Complete m) (extra : Bytes) (he : extra ≠ []) :
    decode (m.enc ++ extra) = none :=
  extension_rejected _ _ (C01.roundtrip m h) extra he

/-- truncating a valid encoding anywhere is a failure -/
theorem truncation_rejected (m : Msg) (h : C01.Complete m) (k : Nat) (hk : k < m.enc.length) (h4 : 4 ≤ k) :
    decode (m.enc.take k) = none :=
  prefix_rejected _ _ (C01.roundtrip m h) k hk

/-- decoding is idempotent on its own output: what is returned re-encodes to bytes that decode
to the same message (the normal form of the input) -/
theorem decoded_is_fixed_point (m : Msg) (h : C01.Complete m) :
    decode (C01.decoded m).enc = some (.data (C01.decoded m)) := by
  rw [C01.reencode]; exact C01.roundtrip m h

/-- an item header with zero length bytes is refused -/
theorem zero_length_bytes_refused (fb : Nat) (rest : Bytes) (fuel : Nat) (h : fb % 4 = 0) :
    decItem (fuel + 1) (fb :: rest) = none := by
  simp [decItem, h]

/-- a declared payload longer than the bytes present is refused (no misread, no over-read) -/
theorem missing_payload_refused (f : Fmt) (hf : f ≠ .list) (k n : Nat) (rest : Bytes) (fuel : Nat)
    (hk : 1 ≤ k ∧ k ≤ 3) (hn : n < 256 ^ k) (hshort : rest.length < n) :
    decItem (fuel + 1) ((f.code * 4 + k) :: (beEnc k n ++ rest)) = none := by
  have := decItem_headerK f.code k n ⟨hk.1, hk.2, hn⟩ rest fuel
  rw [decodeFmt_code] at this
  rw [show (f.code * 4 + k) :: (beEnc k n ++ rest) = Spec.headerK f.code k n ++ rest from rfl, this]
  cases f with
  | list => exact absurd rfl hf
  | _ => simp only [hshort, if_true]

/-- soundness: what the decoder returns for an item is denoted by exactly the bytes it consumed -/
theorem item_sound (fuel : Nat) (inp : Bytes) (t : Tmpl) (r : Bytes) (h : decItem fuel inp = some (t, r))
    (hb : IsBytes inp) : ∃ p, inp = p ++ r ∧ Spec.Denotes p t :=
  dec_sound fuel inp t r h hb

/-- completeness: whatever bytes denote an item — minimal length bytes or not — are decoded to
exactly that item, leaving what follows untouched -/
theorem item_complete (t : Tmpl) (p : Bytes) (h : Spec.Denotes p t) (rest : Bytes) (fuel : Nat) (hf : t.sz ≤ fuel) :
    decItem fuel (p ++ rest) = some (t, rest) :=
  dec_complete t p h rest fuel hf

/-- bytes denote at most one item -/
theorem item_functional (p : Bytes) (t t' : Tmpl) (h : Spec.Denotes p t) (h' : Spec.Denotes p t') : t = t' :=
  denotes_fun p t t' h h'

/-- one well-formed HSMS message: at least a header, declared length = bytes present, PType 0,
and either a data message whose text is empty or denotes exactly one item (nothing left over)
and does not set the W-bit on an even function, or a control message with a defined SType that
is exactly a header -/
def WellFormed (b : Bytes) : Prop :=
  14 ≤ b.length ∧ beDec (b.take 4) + 4 = b.length ∧ b.getD 8 0 = 0 ∧
  ((b.getD 9 0 = 0 ∧ (b.length = 14 ∨ ∃ t, Spec.Denotes (b.drop 14) t) ∧
      ¬ (b.getD 6 0 / 128 = 1 ∧ b.getD 7 0 % 2 = 0)) ∨
   (((1 ≤ b.getD 9 0 ∧ b.getD 9 0 ≤ 7) ∨ b.getD 9 0 = 9) ∧ b.length = 14))

theorem getD_take_drop {α} (l : List α) (a n i : Nat) (d : α) (hi : i < n) :
    ((l.drop a).take n).getD i d = l.getD (a + i) d := by
  simp [List.getD_eq_getElem?_getD, List.getElem?_drop, hi]

/-- the text of a data message is accepted iff it denotes one item, with nothing left over -/
theorem text_accepted_iff (text : Bytes) (hb : IsBytes text) :
    (∃ t, decItem (text.length + 1) text = some (t, [])) ↔ ∃ t, Spec.Denotes text t :=
  exists_congr fun t => (decodeText_eq_some text t).symm.trans (decodeText_iff text hb t)

/-- the message constructor used by the decoder refuses exactly the W-bit on an even function -/
theorem hsms_ctor_iff (s f w sid : Int) (hs : 0 ≤ s ∧ s < 128) (hf : 0 ≤ f ∧ f < 256) (hw : w = 0 ∨ w = 1)
    (hsid : 0 ≤ sid ∧ sid < 65536) (item : Tmpl) (hv : item.vars.isEmpty = true) (sys : Bytes) (hsys : sys.length = 4) :
    (mkHsmsMsg [] s f w dirBoth item sid sys).isSome = true ↔ ¬ (w = 1 ∧ f % 2 = 0) := by
  obtain ⟨a, b, c, d, rfl⟩ := length4 sys hsys
  constructor
  · rintro h ⟨h1, h2⟩
    obtain ⟨m, hm⟩ := Option.isSome_iff_exists.mp h
    exact ((Msg.valid_iff _).mp (mkHsmsMsg_eq_some.mp hm).2.2.2.1).2.2.2.1 ⟨h1, h2⟩
  · intro h
    rw [C01.mkHsms_ok s f w sid item a b c d hs hf hw h hsid hv]
    rfl

theorem decodeText_isSome (text : Bytes) (hb : IsBytes text) :
    (decodeText text).isSome = true ↔ ∃ t, Spec.Denotes text t :=
  Option.isSome_iff_exists.trans (exists_congr (decodeText_iff text hb))

theorem decodeCtrl_isSome (b : Bytes) : (decodeCtrl b).isSome = true ↔ beDec (b.take 4) = 10 := by
  simp only [Option.isSome_iff_exists, decodeCtrl_eq_some, exists_and_left, exists_eq, and_true]

theorem decodeData_isSome (b : Bytes) (hb : IsBytes b) (h14 : 14 ≤ b.length)
    (hlen : beDec (b.take 4) + 4 = b.length) :
    (decodeData b).isSome = true ↔
      (b.length = 14 ∨ ∃ t, Spec.Denotes (b.drop 14) t) ∧ ¬ (b.getD 6 0 / 128 = 1 ∧ b.getD 7 0 % 2 = 0) := by
  have hbyte : ∀ i, b.getD i 0 < 256 := by
    intro i
    rw [List.getD_eq_getElem?_getD]
    cases hg : b[i]? with
    | none => decide
    | some v => exact hb v (List.mem_of_getElem? hg)
  have hb6 := hbyte 6
  have hb7 := hbyte 7
  have hh : ((b.drop 4).take 10).length = 10 := by rw [List.length_take, List.length_drop]; omega
  have hsid : beDec (((b.drop 4).take 10).take 2) < 65536 := by
    have := beDec_lt (((b.drop 4).take 10).take 2) (isBytes_take _ _ (isBytes_take _ _ (isBytes_drop _ _ hb)))
    rwa [List.length_take, hh] at this
  have hsys : (((b.drop 4).take 10).drop 6).length = 4 := by rw [List.length_drop, hh]
  have hctor : ∀ item : Tmpl, item.vars.isEmpty = true →
      ((mkHsmsMsg [] ((b.getD 6 0 % 128 : Nat) : Int) ((b.getD 7 0 : Nat) : Int) ((b.getD 6 0 / 128 : Nat) : Int)
        dirBoth item ((beDec (((b.drop 4).take 10).take 2) : Nat) : Int) (((b.drop 4).take 10).drop 6)).isSome = true ↔
      ¬ (b.getD 6 0 / 128 = 1 ∧ b.getD 7 0 % 2 = 0)) := by
    intro item hv
    rw [hsms_ctor_iff _ _ _ _ ⟨Int.natCast_nonneg _, Int.ofNat_lt.mpr (Nat.mod_lt _ (by decide))⟩
      ⟨Int.natCast_nonneg _, Int.ofNat_lt.mpr hb7⟩ (by omega) ⟨Int.natCast_nonneg _, Int.ofNat_lt.mpr hsid⟩
      item hv _ hsys]
    norm_cast
  unfold decodeData
  simp only [getD_take_drop b 4 10 2 0 (by omega), getD_take_drop b 4 10 3 0 (by omega)]
  by_cases h10 : b.length = 14
  · rw [if_pos (by rw [show beDec (b.take 4) = 10 by omega]; rfl)]
    simp only [Option.isSome_map, hctor .empty rfl, h10, true_or, true_and]
  · rw [if_neg (by simp only [beq_iff_eq]; omega)]
    have htx := decodeText_isSome (b.drop 14) (isBytes_drop _ _ hb)
    cases hdt : decodeText (b.drop 14) with
    | none =>
      rw [hdt] at htx
      simp only [Option.isSome_none, Bool.false_eq_true, false_iff] at htx ⊢
      exact fun h => h.1.elim h10 htx
    | some t =>
      have hd := (decodeText_iff _ (isBytes_drop _ _ hb) t).mp hdt
      simp only [Option.isSome_map, hctor t (by rw [vars_closed t (denotes_closed _ _ hd)]; rfl),
        show ∃ t, Spec.Denotes (b.drop 14) t from ⟨t, hd⟩, or_true, true_and]

theorem decode_isSome (b : Bytes) :
    (decode b).isSome = true ↔ frameOk b = true ∧
      ((b.getD 9 0 = 0 ∧ (decodeData b).isSome = true) ∨
       (((1 ≤ b.getD 9 0 ∧ b.getD 9 0 ≤ 7) ∨ b.getD 9 0 = 9) ∧ (decodeCtrl b).isSome = true)) := by
  simp only [Option.isSome_iff_exists, decode_eq_some, exists_and_left, exists_or]

/-- accepted ⇔ one well-formed HSMS message -/
theorem accept_iff (b : Bytes) (hb : IsBytes b) : (decode b).isSome = true ↔ WellFormed b := by
  unfold WellFormed
  rw [decode_isSome, frameOk_iff]
  constructor
  · rintro ⟨⟨h14, hlen, hpt⟩, h⟩
    refine ⟨h14, hlen, hpt, h.imp (fun h => ?_) (fun h => ?_)⟩
    · have := (decodeData_isSome b hb h14 hlen).mp h.2
      exact ⟨h.1, this.1, this.2⟩
    · have := (decodeCtrl_isSome b).mp h.2
      exact ⟨h.1, by omega⟩
  · rintro ⟨h14, hlen, hpt, h⟩
    refine ⟨⟨h14, hlen, hpt⟩, h.imp (fun h => ?_) (fun h => ?_)⟩
    · exact ⟨h.1, (decodeData_isSome b hb h14 hlen).mpr ⟨h.2.1, h.2.2⟩⟩
    · exact ⟨h.1, (decodeCtrl_isSome b).mpr (by omega)⟩

/-- tie to the source: the decoder's dispatch table -/
theorem facts_dispatch :
    Generated.decoderDispatch =
      [(0, "NewListNode", 0), (16, "NewASCIINode", 0), (24, "parseInt", 8), (25, "parseInt", 1),
       (26, "parseInt", 2), (28, "parseInt", 4), (32, "parseFloat", 8), (36, "parseFloat", 4),
       (40, "parseUint", 8), (41, "parseUint", 1), (42, "parseUint", 2), (44, "parseUint", 4),
       (8, "NewBinaryNode", 0), (9, "NewBooleanNode", 0)] :=
  C01.facts_decoder_dispatch

/-! ### non-vacuity -/

example : decode [0, 0, 0, 10, 0, 1, 0x81, 1, 0, 0, 0, 0, 0, 1] ≠ none := by decide
example : decode [0, 0, 0, 12, 0, 1, 0x81, 1, 0, 0, 0, 0, 0, 1, 0xA5, 0] ≠ none := by decide
example : decode [0, 0, 0, 13, 0, 1, 0x81, 1, 0, 0, 0, 0, 0, 1, 0xA5, 0, 0] = none := by decide

end Secs.C03
