/-
C13 — the 16,777,215-byte item limit and the length header are exact for every size.

An item can be constructed iff element count × element width ≤ 16,777,215; every constructible
item encodes to a non-empty byte string whose length field is correct (one length byte up to
255, two up to 65,535, three beyond) for all 14 formats; the decoder reads each of those length
fields back as the same count. For every size at once (no enumeration).
-/
import SecsModel.Proofs.MsgCodec
import SecsModel.Proofs.Factories
import SecsModel.Generated.Facts
namespace Secs.C13
open Secs

/-- number of length bytes the standard prescribes -/
def lengthBytes (n : Nat) : Nat := if n ≤ 255 then 1 else if n ≤ 65535 then 2 else 3

/-- header = format byte (code·4 + k) followed by the k-byte big-endian payload length -/
theorem header_closed_form (f : Fmt) (size : Nat) (h : size * f.width ≤ 16777215) :
    headerBytes f size =
      some ((f.code * 4 + lengthBytes (size * f.width)) :: beEnc (lengthBytes (size * f.width)) (size * f.width)) :=
  headerBytes_closed f size h

/-- beyond the limit the header routine reports an error -/
theorem header_error_beyond (f : Fmt) (size : Nat) (h : size * f.width > 16777215) :
    headerBytes f size = none :=
  headerBytes_none f size h

/-- the decoder's reading of a header (`k = fb mod 4`, accumulate k bytes) returns the payload
length that was written, and the format code it dispatches on is the item's -/
theorem header_readback (f : Fmt) (size : Nat) (fb : Nat) (lb : Bytes)
    (h : headerBytes f size = some (fb :: lb)) :
    fb % 4 = lb.length ∧ 1 ≤ lb.length ∧ lb.length ≤ 3 ∧ decodeFmt? (fb / 4) = some f ∧
      beDec lb = size * f.width := by
  by_cases hm : size * f.width ≤ maxByteSize
  · rw [headerBytes_closed f size hm] at h
    injection h with h
    injection h with h1 h2
    subst h1; subst h2
    have hk := nLB_pos (size * f.width)
    refine ⟨by rw [beEnc_length]; omega, by rw [beEnc_length]; omega, by rw [beEnc_length]; omega, ?_, ?_⟩
    · have : (f.code * 4 + nLB (size * f.width)) / 4 = f.code := by omega
      rw [this]; exact decodeFmt_code f
    · exact beDec_beEnc _ _ (nLB_ok _ hm)
  · rw [headerBytes_none f size (by omega)] at h
    cases h

/-- the factories accept exactly the sizes within the limit (elements being in range) -/
theorem ascii_constructible_iff (s : Bytes) :
    (mkAscii s).isSome = true ↔ s.length * Fmt.ascii.width ≤ 16777215 ∧ ∀ b ∈ s, b < 128 := by
  rw [Option.isSome_iff_exists, show (16777215 : Nat) = maxByteSize from rfl]
  simp only [mkAscii_eq_some, Tmpl.wf, Bool.and_eq_true, decide_eq_true_eq, List.all_eq_true, exists_and_left, exists_eq', and_true,
    Fmt.width, Nat.mul_one]

theorem int_constructible_limit (w : Nat) (args : List GoVal) (t : Tmpl) (h : mkInt w args = some t) :
    validWidthInt w = true → args.length * w ≤ 16777215 := by
  intro _
  obtain ⟨xs, hs, hwf, _⟩ := mkInt_eq_some.mp h
  simp only [Tmpl.wf, Bool.and_eq_true, decide_eq_true_eq] at hwf
  exact mkSlots_length _ _ _ hs ▸ hwf.1.2

theorem int_refused_beyond (w : Nat) (args : List GoVal) (hw : validWidthInt w = true)
    (h : args.length * w > 16777215) : mkInt w args = none := by
  refine Option.eq_none_iff_forall_ne_some.mpr fun t ht => ?_
  exact absurd (int_constructible_limit w args t ht hw) (by omega)

/-- every constructible (well-formed) closed item encodes to a non-empty byte string … -/
theorem encoding_nonempty (t : Tmpl) (hw : t.wf = true) (hc : t.closed = true) : 2 ≤ t.enc.length :=
  enc_length_ge t hw hc

/-- … which the decoder reads back as the same item (so every length field is read back as the
same count), whatever follows it -/
theorem decoder_reads_back (t : Tmpl) (hw : t.wf = true) (hc : t.closed = true) (rest : Bytes) :
    decItem (t.enc.length + 1) (t.enc ++ rest) = some (t, rest) :=
  decItem_enc t hw hc rest _ (by have := sz_lt_enc t hw hc; omega)

/-! ### the tie to the source -/

theorem facts_limit_and_tables :
    Generated.maxByteSize = 16777215 ∧ Generated.tableKeysOk = true ∧
    Generated.bytePerValue = Fmt.all.map (fun f => (f.width : Int)) ∧
    Generated.formatCode = Fmt.all.map (fun f => (f.code : Int)) := by decide

/-! ### non-vacuity -/

example : headerBytes .ascii 256 = some [0x42, 1, 0] := by decide
example : headerBytes .u8 2097151 = some [0xA3, 0xFF, 0xFF, 0xF8] := by decide
example : headerBytes .u8 2097152 = none := by decide
example : lengthBytes 255 = 1 ∧ lengthBytes 256 = 2 ∧ lengthBytes 65535 = 2 ∧ lengthBytes 65536 = 3 := by decide

end Secs.C13
