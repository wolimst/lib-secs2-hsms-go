/-
C17 — shared items, messages and parsers are safe for concurrent use.

The logic part, for every interleaving: threads execute atomic reads and writes on a shared
memory in an arbitrary schedule. If no thread writes an address that another thread touches
(the write-set discipline: every call writes only memory it allocated itself; everything that
existed before — items, messages, package state — is only read), then there is no pair of
conflicting accesses by different threads (`race_free`) and every thread reads exactly the
values it reads when it runs alone (`solo_result`), so every call returns what it would return
alone. The discipline itself is certified from the source by the extracted facts
(`facts_purity`): no package-level variable, no write through a receiver or parameter outside
the per-call scratch types, no `go` statement, no sync/unsafe/reflect.

Not modelled (labelled partial, level `other`): the Go memory model itself, the internals of
regexp/fmt/strconv, and which schedules the race detector happens to exercise in the
correspondence run (conc/race-detector-workload).
-/
import SecsModel.Generated.Facts
namespace Secs.C17

inductive Step where
  | read (a : Nat)
  | write (a v : Nat)

def Step.addr : Step → Nat
  | .read a => a
  | .write a _ => a

def Step.isWrite : Step → Bool
  | .write _ _ => true
  | .read _ => false

/-- a schedule: steps tagged with the thread that performs them, in global order -/
abbrev Sched := List (Nat × Step)

def Mem := Nat → Nat

def Mem.set (m : Mem) (a v : Nat) : Mem := fun x => if x = a then v else m x

/-- values read by thread t while the schedule runs from memory m -/
def obs (t : Nat) : Sched → Mem → List Nat
  | [], _ => []
  | (u, .read a) :: r, m => if u = t then m a :: obs t r m else obs t r m
  | (_, .write a v) :: r, m => obs t r (m.set a v)

/-- the steps of thread t alone, in program order -/
def solo (t : Nat) (s : Sched) : Sched := s.filter (fun p => p.1 == t)

/-- write-set discipline for thread t: no other thread writes an address that t touches -/
def Isolated (t : Nat) (s : Sched) : Prop :=
  ∀ p ∈ s, ∀ q ∈ s, p.1 ≠ t → q.1 = t → p.2.isWrite = true → p.2.addr ≠ q.2.addr

/-- the form the induction needs: two memories that agree on a footprint `foot`, which holds every
address thread t touches and no address another thread writes -/
theorem obs_agree (t : Nat) (s : Sched) (foot : Nat → Prop)
    (hfoot : ∀ q ∈ s, q.1 = t → foot q.2.addr)
    (hiso : ∀ p ∈ s, p.1 ≠ t → p.2.isWrite = true → ¬ foot p.2.addr)
    (m1 m2 : Mem) (hm : ∀ a, foot a → m1 a = m2 a) :
    obs t s m1 = obs t (solo t s) m2 := by
  induction s generalizing m1 m2 with
  | nil => rfl
  | cons p r ih =>
    obtain ⟨u, st⟩ := p
    have hf' : ∀ q ∈ r, q.1 = t → foot q.2.addr := fun q hq => hfoot q (by simp [hq])
    have hi' : ∀ p ∈ r, p.1 ≠ t → p.2.isWrite = true → ¬ foot p.2.addr := fun p hp => hiso p (by simp [hp])
    by_cases hu : u = t
    · subst hu
      have hfa : foot st.addr := hfoot (u, st) (by simp) rfl
      cases st with
      | read a =>
        simp only [obs, solo, List.filter_cons, beq_self_eq_true, if_true]
        rw [hm a hfa]
        congr 1
        exact ih hf' hi' m1 m2 hm
      | write a v =>
        simp only [obs, solo, List.filter_cons, beq_self_eq_true, if_true]
        apply ih hf' hi'
        intro x hx
        simp only [Mem.set]
        split
        · rfl
        · exact hm x hx
    · have hne : ((u, st).1 == t) = false := by simpa using hu
      cases st with
      | read a =>
        simp only [obs, solo, List.filter_cons, hne, Bool.false_eq_true, if_false, hu]
        exact ih hf' hi' m1 m2 hm
      | write a v =>
        simp only [obs, solo, List.filter_cons, hne, Bool.false_eq_true, if_false]
        apply ih hf' hi'
        intro x hx
        have hnf : ¬ foot a := hiso (u, .write a v) (by simp) hu rfl
        simp only [Mem.set]
        split
        · rename_i hxa; subst hxa; exact absurd hx hnf
        · exact hm x hx

/-- every call returns the result it would return alone, in every interleaving -/
theorem solo_result (t : Nat) (s : Sched) (m : Mem) (h : Isolated t s) :
    obs t s m = obs t (solo t s) m := by
  apply obs_agree t s (fun a => ∃ q ∈ s, q.1 = t ∧ q.2.addr = a)
  · intro q hq ht; exact ⟨q, hq, ht, rfl⟩
  · rintro p hp hpt hw ⟨q, hq, hqt, hqa⟩
    exact h p hp q hq hpt hqt hw hqa.symm
  · intro a _; rfl

/-- a data race: two accesses to the same address by different threads, one of them a write -/
def Race (s : Sched) : Prop :=
  ∃ p ∈ s, ∃ q ∈ s, p.1 ≠ q.1 ∧ p.2.addr = q.2.addr ∧ p.2.isWrite = true

/-- if every thread is isolated there is no data race in the schedule (nor in any other
interleaving of the same steps, since the hypothesis does not depend on the order) -/
theorem race_free (s : Sched) (h : ∀ t, Isolated t s) : ¬ Race s := by
  rintro ⟨p, hp, q, hq, hne, haddr, hw⟩
  exact h q.1 p hp q hq hne rfl hw haddr

/-- isolation only speaks of which steps there are: it passes to any schedule made of some of them -/
theorem Isolated.mono {t : Nat} {s s' : Sched} (hs : ∀ x ∈ s', x ∈ s) (h : Isolated t s) : Isolated t s' :=
  fun p hp' q hq' => h p (hs p hp') q (hs q hq')

/-- the hypothesis is about the set of steps only: it is invariant under reordering -/
theorem isolated_perm (t : Nat) (s s' : Sched) (hp : ∀ x, x ∈ s ↔ x ∈ s') (h : Isolated t s) : Isolated t s' :=
  h.mono fun x => (hp x).2

/-! ### the discipline holds of the code: extracted purity facts -/

theorem facts_purity :
    Generated.pkgVars = [] ∧ Generated.goStmts = 0 ∧ Generated.badImports = [] ∧
    Generated.receiverWrites = [] ∧ Generated.tokenChanCap = 2 := by decide

/-! ### non-vacuity: two threads reading a shared frozen address and writing their own -/

example : Isolated 1 [(1, .read 0), (2, .read 0), (1, .write 10 5), (2, .write 20 6), (1, .read 10)] := by
  intro p hp q hq h1 h2 hw
  simp only [List.mem_cons, List.not_mem_nil, or_false] at hp hq
  rcases hp with rfl | rfl | rfl | rfl | rfl <;> rcases hq with rfl | rfl | rfl | rfl | rfl <;>
    simp_all [Step.isWrite, Step.addr]

end Secs.C17
