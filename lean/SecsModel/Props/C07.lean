/-
C07 — the HSMS decoder is total and its memory use is linear in the input.

Totality: `decode` is a total Lean function in which every Go panic site (slice bounds, factory
refusal) is an explicit `none`, so "failure is reported through the result" is `decode b = none`;
the fuel the decoder is given (text length + 1) is never the reason for a failure
(`depth_linear`, from the fact that every item consumes at least two bytes).

Memory: `allocItem` mirrors the decoder's recursion and adds, at each point where the Go code
allocates a buffer whose size comes from the input (`make([]interface{}, n)`, the string
conversion, the appended child slice), the number of elements requested. The theorem
`alloc_linear` bounds it by the number of input bytes, on success and on failure, whatever
lengths the input declares. What the model cannot exhibit (allocator, GC, goroutine stack) is
measured on the real code by the correspondence run (TotalAlloc per call in a worker process).
-/
import SecsModel.Proofs.MsgCodec
import SecsModel.Generated.Facts
namespace Secs.C07
open Secs

/-- every successfully decoded item consumed at least two bytes -/
theorem decItem_consumes : ∀ (fuel : Nat) (inp : Bytes) (t : Tmpl) (r : Bytes),
    decItem fuel inp = some (t, r) → r.length + 2 ≤ inp.length := by
  intro fuel inp t r h
  have := sz_le_of_dec fuel inp t r h
  have := sz_pos t
  omega

-- patterns on the analysed argument only, the rest by `fun`: a pattern over all arguments builds a matcher over each
/-- n items consumed at least 2n bytes -/
theorem decItems_consumes : ∀ (fuel n : Nat) (inp : Bytes) (xs : Slots) (r : Bytes),
    decItems fuel n inp = some (xs, r) → r.length + 2 * n ≤ inp.length
  | _, 0 => fun inp xs r h => by
    rw [decItems_zero] at h
    simp only [Option.some.injEq, Prod.mk.injEq] at h
    rw [h.2]; omega
  | 0, _ + 1 => fun _ _ _ h => by simp [decItems] at h
  | fuel + 1, n + 1 => fun inp xs r h => by
    obtain ⟨x, r1, ys, h1, h2, _⟩ := decItems_succ_some fuel n inp xs r h
    have := decItem_consumes fuel inp x r1 h1
    have := decItems_consumes fuel n r1 ys r h2
    omega

/-- a list can never hold more elements than half the bytes that follow its header: a declared
count beyond that is a failure, not an allocation -/
theorem list_count_bounded (fuel n : Nat) (inp : Bytes) (xs : Slots) (r : Bytes)
    (h : decItems fuel n inp = some (xs, r)) : 2 * n ≤ inp.length := by
  have := decItems_consumes fuel n inp xs r h; omega

mutual
/-- elements requested from the allocator while decoding one item (success or not), and the
unread suffix on success -/
def allocItem : Nat → Bytes → Nat × Option Bytes
  | 0, _ => (0, none)
  | _ + 1, [] => (0, none)
  | fuel + 1, fb :: rest =>
    let k := fb % 4
    if k = 0 then (0, none) else
    if rest.length < k then (0, none) else
    let n := beDec (rest.take k)
    let rest := rest.drop k
    match decodeFmt? (fb / 4) with
    | none => (0, none)
    | some .list => allocItems fuel n rest                      -- children are appended one by one
    | some _ =>
      if rest.length < n then (0, none)                          -- refused before any buffer is sized
      else (n + 1, some (rest.drop n))                           -- payload-sized buffer + the node
/-- children of a list: each parsed child costs its own allocations plus one slot -/
def allocItems : Nat → Nat → Bytes → Nat × Option Bytes
  | _, 0, inp => (1, some inp)
  | 0, _ + 1, _ => (0, none)
  | fuel + 1, n + 1, inp =>
    match allocItem fuel inp with
    | (c, none) => (c, none)
    | (c, some r) =>
      match allocItems fuel n r with
      | (c', o) => (c + 1 + c', o)
end

theorem allocItem_cases (fuel : Nat) (inp : Bytes) :
    allocItem (fuel + 1) inp = (0, none) ∨
    ∃ fb lb body, inp = fb :: (lb ++ body) ∧ 1 ≤ lb.length ∧
      (allocItem (fuel + 1) inp = allocItems fuel (beDec lb) body ∨
       ∃ n, n ≤ body.length ∧ allocItem (fuel + 1) inp = (n + 1, some (body.drop n))) := by
  -- the function's own cases (a `split at h` for each test would abstract the whole body again)
  generalize hg : fuel + 1 = g
  fun_cases allocItem g inp <;> first | exact .inl rfl | skip
  · rename_i g fb rest k hk hl n body hf
    cases hg
    exact .inr ⟨fb, rest.take (fb % 4), rest.drop (fb % 4), by rw [List.take_append_drop],
      by rw [List.length_take, Nat.min_eq_left (Nat.le_of_not_lt hl)]; exact Nat.pos_of_ne_zero hk, .inl rfl⟩
  · rename_i g fb rest k hk hl n body f hne hf hn
    cases hg
    exact .inr ⟨fb, rest.take (fb % 4), rest.drop (fb % 4), by rw [List.take_append_drop],
      by rw [List.length_take, Nat.min_eq_left (Nat.le_of_not_lt hl)]; exact Nat.pos_of_ne_zero hk,
      .inr ⟨n, Nat.le_of_not_lt hn, rfl⟩⟩

mutual
/-- whatever the input declares, the elements requested are bounded by the bytes present;
on success by the bytes consumed -/
theorem allocItem_bound : ∀ (fuel : Nat) (inp : Bytes),
    (allocItem fuel inp).1 ≤ inp.length ∧
    (∀ r, (allocItem fuel inp).2 = some r → (allocItem fuel inp).1 + r.length + 1 ≤ inp.length ∧ r.length + 2 ≤ inp.length)
  | 0 => fun _ => by simp [allocItem]
  | fuel + 1 => fun inp => by
    rcases allocItem_cases fuel inp with h | ⟨fb, lb, body, rfl, hlb, h | ⟨n, hn, h⟩⟩ <;> rw [h]
    · exact ⟨Nat.zero_le _, fun r hr => by cases hr⟩
    · have hb := allocItems_spec fuel (beDec lb) body
      refine ⟨by simp only [List.length_cons, List.length_append]; omega, fun r hr => ?_⟩
      have h2 := hb.2 r hr
      simp only [List.length_cons, List.length_append]; omega
    · simp only [List.length_cons, List.length_append, Option.some.injEq]
      refine ⟨by omega, fun r hr => ?_⟩
      rw [← hr, List.length_drop]; omega

/-- n items: the count stays within the bytes present (and one); on success it is positive, so the
suffix left is no longer than the input -/
theorem allocItems_spec : ∀ (fuel n : Nat) (inp : Bytes),
    (allocItems fuel n inp).1 ≤ inp.length + 1 ∧
    (∀ r, (allocItems fuel n inp).2 = some r →
      1 ≤ (allocItems fuel n inp).1 ∧ (allocItems fuel n inp).1 + r.length ≤ inp.length + 1)
  | _, 0 => fun inp => by simp [allocItems]; omega
  | 0, _ + 1 => fun _ => by simp [allocItems]
  | fuel + 1, n + 1 => fun inp => by
    rw [allocItems]
    have h1 := allocItem_bound fuel inp
    cases ha : allocItem fuel inp with
    | mk c o =>
      rw [ha] at h1
      cases o with
      | none => simp only; exact ⟨by have := h1.1; simp at this; omega, by simp⟩
      | some r =>
        simp only
        have h1r := h1.2 r rfl
        have h2 := allocItems_spec fuel n r
        cases hb : allocItems fuel n r with
        | mk c' o' =>
          rw [hb] at h2
          simp only at h1r h2 ⊢
          refine ⟨by omega, fun r' hr' => ?_⟩
          have := h2.2 r' hr'
          omega
end

/-- the suffix left by n items is no longer than the input -/
theorem allocItems_suffix : ∀ (fuel n : Nat) (inp r : Bytes), (allocItems fuel n inp).2 = some r → r.length ≤ inp.length :=
  fun fuel n inp r h => by have := (allocItems_spec fuel n inp).2 r h; omega

theorem allocItems_bound : ∀ (fuel n : Nat) (inp : Bytes),
    (allocItems fuel n inp).1 ≤ inp.length + 1 ∧
    (∀ r, (allocItems fuel n inp).2 = some r → (allocItems fuel n inp).1 + r.length ≤ inp.length + 1) :=
  fun fuel n inp => ⟨(allocItems_spec fuel n inp).1, fun r h => ((allocItems_spec fuel n inp).2 r h).2⟩

/-- memory is linear in the input, whatever lengths it declares -/
theorem alloc_linear (inp : Bytes) : (allocItem (inp.length + 1) inp).1 ≤ inp.length :=
  (allocItem_bound _ inp).1

mutual
/-- the allocation model follows the decoder: wherever the decoder succeeds the model has taken
the same path and stands at the same suffix (where a factory refuses a payload after the buffer
was sized, the model goes on, which can only add to its count) -/
theorem allocItem_follows : ∀ (fuel : Nat) (inp : Bytes) (t : Tmpl) (r : Bytes),
    decItem fuel inp = some (t, r) → (allocItem fuel inp).2 = some r
  | 0 => fun _ _ _ h => by simp [decItem] at h
  | fuel + 1 => fun inp t r h => by
    obtain ⟨fb, lb, body, f, rfl, hl, hk, hf, h⟩ := decItem_some fuel inp t r h
    have hk0 : ¬ fb % 4 = 0 := by omega
    have h1 : ¬ (fb % 4 + body.length < fb % 4) := by omega
    rw [allocItem]
    simp only [hk0, if_false, List.length_append, hl, h1, List.take_left' hl, List.drop_left' hl, hf]
    rcases h with ⟨rfl, xs, hd, _⟩ | ⟨hne, p, rfl, hp, _⟩
    · exact allocItems_follows fuel _ body xs r hd
    · have h2 : ¬ ((p ++ r).length < beDec lb) := by rw [List.length_append]; omega
      split
      · rename_i h; cases h
      · rename_i h; cases h; exact absurd rfl hne
      · rw [if_neg h2, List.drop_left' hp]

theorem allocItems_follows : ∀ (fuel n : Nat) (inp : Bytes) (xs : Slots) (r : Bytes),
    decItems fuel n inp = some (xs, r) → (allocItems fuel n inp).2 = some r
  | fuel, 0 => fun inp xs r h => by
    rw [decItems_zero] at h
    simp only [Option.some.injEq, Prod.mk.injEq] at h
    cases fuel <;> simp [allocItems, h.2]
  | 0, _ + 1 => fun _ _ _ h => by simp [decItems] at h
  | fuel + 1, n + 1 => fun inp xs r h => by
    obtain ⟨x, r1, ys, h1, h2, _⟩ := decItems_succ_some fuel n inp xs r h
    have a := allocItem_follows fuel inp x r1 h1
    have b := allocItems_follows fuel n r1 ys r h2
    rw [allocItems]
    cases ha : allocItem fuel inp with
    | mk c o =>
      rw [ha] at a; simp only at a; subst a
      simp only
      cases hb : allocItems fuel n r1 with
      | mk c' o' => rw [hb] at b; simp only at b; subst b; rfl
end

/-- the decoder's fuel (text length + 1) is never what makes it fail: every nested item consumes
at least two bytes, so the recursion depth is at most half the input length -/
theorem depth_linear (fuel : Nat) (inp : Bytes) (t : Tmpl) (r : Bytes) (h : decItem fuel inp = some (t, r)) :
    2 ≤ inp.length - r.length := by
  have := decItem_consumes fuel inp t r h; omega

/-- decoding keeps nothing between calls and shares nothing between goroutines: the packages hold
no package-level variable (an intern table or memo would retain memory beyond the call that
allocated it, and make concurrent decoders abort the process) -/
theorem facts_no_package_state : Generated.pkgVars = [] := by decide

/-! ### non-vacuity: a 6-byte item declaring 16 MB requests nothing -/

example : allocItem 10 [0x43, 0xFF, 0xFF, 0xFF, 1, 2] = (0, none) := by decide
example : allocItem 10 [0x03, 0xFF, 0xFF, 0xFF] = (0, none) := by decide
example : (allocItem 10 [0x01, 2, 0xA5, 1, 7, 0x41, 1, 65]).1 = 7 := by decide

end Secs.C07
