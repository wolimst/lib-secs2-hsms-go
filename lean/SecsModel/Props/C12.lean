/-
C12 — constructors store exactly what is passed or refuse it.

For the array factories: if a factory returns a node, then slot by slot the node holds the
mathematical value of the argument (independent of the Go type it came in) or the variable
name that is passed, every value lies in the item type's range, every name is a valid,
distinct variable name, and the size limit holds; conversely an argument outside the range, of
an unaccepted type, or a bad/duplicate name makes the factory refuse (`none` = panic).
Nothing wraps: a negative value never reaches an unsigned node, an unsigned value above
MaxInt64 never reaches a signed node. The ASCII, list and message constructors likewise
(`ascii_exact`, `ascii_var_exact`, `list_exact`, `msg_refusals`), and whatever a factory or a fill
hands out is well formed (`factories_well_formed`, `fill_well_formed`).
-/
import SecsModel.Model.WF
import SecsModel.Model.Msg
import SecsModel.Generated.Facts
import SecsModel.Proofs.FillWF
namespace Secs.C12
open Secs

/-- pointwise relation between two lists -/
inductive All2 {α β} (R : α → β → Prop) : List α → List β → Prop
  | nil : All2 R [] []
  | cons {a b as bs} : R a b → All2 R as bs → All2 R (a :: as) (b :: bs)

def slotCheck {α} (p : α → Bool) : Slot α → Bool
  | .val a => p a
  | .var n => isValidVarName n

theorem slotsOk_cons {α} (p : α → Bool) (s : Slot α) (ss : List (Slot α)) (h : slotsOk p (s :: ss) = true) :
    slotCheck p s = true ∧ slotsOk p ss = true := by
  simp only [slotsOk, Bool.and_eq_true, List.all_cons, nodupNames_iff] at h ⊢
  cases s with
  | val a => exact ⟨h.1.1, h.1.2, h.2⟩
  | var n => exact ⟨h.1.1, h.1.2, h.2.of_cons⟩

/-- slot-by-slot relation between arguments and the slots of the node built from them -/
inductive Stored {α} (conv : GoVal → Option α) : GoVal → Slot α → Prop
  | value (g : GoVal) (a : α) : conv g = some a → Stored conv g (.val a)
  | name (n : Name) : conv (.str n) = none → Stored conv (.str n) (.var n)

theorem mkSlots_spec {α} (conv : GoVal → Option α) (args : List GoVal) (xs : List (Slot α))
    (h : mkSlots conv args = some xs) : All2 (Stored conv) args xs := by
  induction args generalizing xs with
  | nil => cases h; exact .nil
  | cons g r ih =>
    obtain ⟨s, ys, hs, hr, rfl⟩ := mkSlots_cons_eq_some.mp h
    refine .cons ?_ (ih ys hr)
    unfold toSlot at hs
    split at hs
    · cases hs; exact .value _ _ ‹_›
    · split at hs
      · cases hs; exact .name _ ‹_›
      · cases hs

/-- the mathematical value of an integer argument, whatever its Go type -/
def mathInt : GoVal → Option Int
  | .sint _ v => some v
  | .uint _ v => some (v : Int)
  | _ => none

theorem All2.imp {α β} {R R' : α → β → Prop} {l : List α} {l' : List β} (h : All2 R l l')
    (f : ∀ a b, R a b → R' a b) : All2 R' l l' := by
  induction h with
  | nil => exact .nil
  | cons hd _ ih => exact .cons (f _ _ hd) ih

theorem All2.with_slotsOk {α} {R : GoVal → Slot α → Prop} (p : α → Bool) {l : List GoVal} {l' : List (Slot α)}
    (h : All2 R l l') (hok : slotsOk p l' = true) : All2 (fun g s => R g s ∧ slotCheck p s = true) l l' := by
  induction h with
  | nil => exact .nil
  | cons hd _ ih =>
    obtain ⟨h1, h2⟩ := slotsOk_cons _ _ _ hok
    exact .cons ⟨hd, h1⟩ (ih h2)

/-- an accepted argument list, slot by slot: the value the conversion reads (`math` is any reading of
the arguments that the conversion `conv` agrees with), in range, or a valid variable name -/
theorem stored_checked {α} {conv math : GoVal → Option α} (hm : ∀ g a, conv g = some a → math g = some a)
    (p : α → Bool) {args : List GoVal} {xs : List (Slot α)} (hs : mkSlots conv args = some xs)
    (hok : slotsOk p xs = true) :
    All2 (fun g s => (∃ v, math g = some v ∧ s = Slot.val v ∧ p v = true) ∨
                      (∃ n, g = GoVal.str n ∧ s = Slot.var n ∧ isValidVarName n = true)) args xs := by
  refine ((mkSlots_spec conv args xs hs).with_slotsOk p hok).imp fun g s ⟨hd, hck⟩ => ?_
  cases hd with
  | value g a hc => exact .inl ⟨a, hm g a hc, rfl, hck⟩
  | name n hc => exact .inr ⟨n, rfl, rfl, hck⟩

theorem convInt_math (g : GoVal) (a : Int) (h : convInt g = some a) : mathInt g = some a := by
  cases g <;> simp only [convInt, mathInt, reduceCtorEq] at h ⊢
  · exact h
  · split at h <;> simp_all

/-- signed factories: what comes out is what went in, in range, or the factory refuses -/
theorem int_exact (w : Nat) (args : List GoVal) (t : Tmpl) (h : mkInt w args = some t) :
    ∃ xs, t = .int w xs ∧ validWidthInt w = true ∧ args.length * w ≤ 16777215 ∧
      slotsOk (intInRange w) xs = true ∧
      All2 (fun g s => (∃ v, mathInt g = some v ∧ s = Slot.val v ∧ intInRange w v = true) ∨
                        (∃ n, g = GoVal.str n ∧ s = Slot.var n ∧ isValidVarName n = true)) args xs := by
  obtain ⟨xs, hs, hw, rfl⟩ := mkInt_eq_some.mp h
  simp only [Tmpl.wf, Bool.and_eq_true, decide_eq_true_eq, mkSlots_length _ _ _ hs, maxByteSize] at hw
  exact ⟨xs, rfl, hw.1.1, hw.1.2, hw.2, stored_checked convInt_math _ hs hw.2⟩

/-- the mathematical value of an argument of an unsigned factory -/
def mathNat : GoVal → Option Nat
  | .sint _ v => if v < 0 then none else some v.toNat
  | .uint _ v => some v
  | _ => none

theorem convUint_math (g : GoVal) (a : Nat) (h : convUint g = some a) : mathNat g = some a := by
  cases g <;> simp only [convUint, mathNat, reduceCtorEq] at h ⊢ <;> exact h

/-- unsigned factories: what comes out is what went in, in range, or the factory refuses -/
theorem uint_exact (w : Nat) (args : List GoVal) (t : Tmpl) (h : mkUint w args = some t) :
    ∃ xs, t = .uint w xs ∧ validWidthInt w = true ∧ args.length * w ≤ 16777215 ∧
      slotsOk (uintInRange w) xs = true ∧
      All2 (fun g s => (∃ v, mathNat g = some v ∧ s = Slot.val v ∧ uintInRange w v = true) ∨
                        (∃ n, g = GoVal.str n ∧ s = Slot.var n ∧ isValidVarName n = true)) args xs := by
  obtain ⟨xs, hs, hw, rfl⟩ := mkUint_eq_some.mp h
  simp only [Tmpl.wf, Bool.and_eq_true, decide_eq_true_eq, mkSlots_length _ _ _ hs, maxByteSize] at hw
  exact ⟨xs, rfl, hw.1.1, hw.1.2, hw.2, stored_checked convUint_math _ hs hw.2⟩

/-- boolean factory: Go bools and names only, stored as given -/
theorem boolean_exact (args : List GoVal) (t : Tmpl) (h : mkBoolean args = some t) :
    ∃ xs, t = .boolean xs ∧ args.length ≤ 16777215 ∧
      All2 (fun g s => (∃ b, g = GoVal.bool b ∧ s = Slot.val b) ∨
                        (∃ n, g = GoVal.str n ∧ s = Slot.var n ∧ isValidVarName n = true)) args xs := by
  obtain ⟨xs, hs, hw, rfl⟩ := mkBoolean_eq_some.mp h
  simp only [Tmpl.wf, Bool.and_eq_true, decide_eq_true_eq, mkSlots_length _ _ _ hs, maxByteSize] at hw
  refine ⟨xs, rfl, hw.1, (stored_checked (fun _ _ h => h) _ hs hw.2).imp fun g s hd => ?_⟩
  rcases hd with ⟨b, hc, rfl, _⟩ | ⟨n, rfl, rfl, hn⟩
  · cases g <;> simp only [convBool, reduceCtorEq, Option.some.injEq] at hc
    exact .inl ⟨b, hc ▸ rfl, rfl⟩
  · exact .inr ⟨n, rfl, rfl, hn⟩

/-- factories whose conversion may itself refuse (`some none`): when no slot is refused, the
unwrapped slots are the converted arguments one by one -/
theorem stored_unwrap {β} (conv : GoVal → Option (Option β)) (dflt : β) (args : List GoVal) (xs : List (Slot (Option β)))
    (hspec : All2 (Stored conv) args xs)
    (hno : xs.any slotRefused = false) :
    All2 (fun g s => (∃ b, conv g = some (some b) ∧ s = Slot.val b) ∨ (∃ n, g = GoVal.str n ∧ conv g = none ∧ s = Slot.var n))
      args (xs.map (slotUnwrap dflt)) := by
  induction hspec with
  | nil => exact .nil
  | cons hd _ ih =>
    simp only [List.any_cons, Bool.or_eq_false_iff] at hno
    refine .cons ?_ (ih hno.2)
    match hd with
    | .value g a hc =>
      cases a with
      | none => simp [slotRefused] at hno
      | some b => exact Or.inl ⟨b, hc, rfl⟩
    | .name n hc => exact Or.inr ⟨n, rfl, hc, rfl⟩

/-- float factories: every stored pattern is the library conversion of the argument to float64
followed by the range check and narrowing of the item width (`floatStore`); NaN, infinities and
out-of-range values are refused, never stored as something else -/
theorem float_exact (w : Nat) (args : List GoVal) (t : Tmpl) (h : mkFloat w args = some t) :
    ∃ ys, t = .float w ys ∧ validWidthFloat w = true ∧
      All2 (fun g s => (∃ b64 b, convFloat64 g = some b64 ∧ floatStore w b64 = some b ∧ s = Slot.val b) ∨
                        (∃ n, g = GoVal.str n ∧ s = Slot.var n)) args ys := by
  obtain ⟨xs, hs, hv, _, hno, _, rfl⟩ := mkFloat_eq_some.mp h
  refine ⟨_, rfl, hv, (stored_unwrap _ 0 args xs (mkSlots_spec _ args xs hs) hno).imp fun g sl hd => ?_⟩
  rcases hd with ⟨b, hc, rfl⟩ | ⟨n, rfl, _, rfl⟩
  · cases hc64 : convFloat64 g with
    | none => simp [hc64] at hc
    | some b64 =>
      simp only [hc64, Option.bind_some, Option.some.injEq] at hc
      exact .inl ⟨b64, b, rfl, hc, rfl⟩
  · exact .inr ⟨n, rfl, rfl⟩

theorem All2.of_map_right {α β γ} {R : α → γ → Prop} (f : β → γ) : ∀ {l : List α} {l' : List β},
    All2 R l (l'.map f) → All2 (fun a b => R a (f b)) l l'
  | [], [], _ => .nil
  | _ :: _, _ :: _, .cons hd tl => .cons hd (All2.of_map_right f tl)

/-- binary factory: a Go `int` or a string "0b…" read by ParseInt (its error is a refusal), in
0..255, or a variable name; stored as given -/
theorem binary_exact (args : List GoVal) (t : Tmpl) (h : mkBinary args = some t) :
    ∃ zs, t = .binary zs ∧ args.length ≤ 16777215 ∧
      All2 (fun g s => (∃ v : Int, convBinary g = some (some v) ∧ 0 ≤ v ∧ v < 256 ∧ s = Slot.val v.toNat) ∨
                        (∃ n, g = GoVal.str n ∧ convBinary g = none ∧ s = Slot.var n ∧ isValidVarName n = true)) args zs := by
  obtain ⟨zs, hs, hw, rfl⟩ := mkBinary_eq_some.mp h
  simp only [Tmpl.wf, Bool.and_eq_true, decide_eq_true_eq] at hw
  have hl := mkSlots_length _ _ _ hs
  rw [List.length_map] at hl
  refine ⟨zs, rfl, hl ▸ hw.1, (((mkSlots_spec convBinary args _ hs).of_map_right liftB).with_slotsOk _ hw.2).imp ?_⟩
  rintro g s ⟨hd, hck⟩
  cases s with
  | val v =>
    cases hd with
    | value _ _ hc =>
      simp only [slotCheck, decide_eq_true_eq] at hck
      exact .inl ⟨v, hc, by omega, by omega, by simp⟩
  | var n =>
    cases hd with
    | name _ hc => exact .inr ⟨n, rfl, hc, rfl, hck⟩

/-- list factory: items and names only, in the order given; own names valid (or one ellipsis
that is not first), no name twice anywhere below -/
theorem list_exact (args : List GoVal) (t : Tmpl) (h : mkList args = some t) :
    ∃ xs, t = .list xs ∧ args.length ≤ 16777215 ∧ mkListSlots args = some xs ∧
      listOwnOk xs 0 false = true ∧ nodupNames xs.vars = true := by
  obtain ⟨xs, hs, hlen, hown, hnd, rfl⟩ := mkList_eq_some.mp h
  rw [mkListSlots_length _ _ hs, maxByteSize] at hlen
  exact ⟨xs, rfl, hlen, hs, hown, hnd⟩

-- patterns on the analysed argument only, the rest by `fun`: a pattern over all arguments builds a matcher over each
/-- the slots of a list are its arguments one by one: an item stays that item, a string becomes a
variable of that name, anything else is refused -/
theorem listSlots_spec : ∀ (args : List GoVal) (xs : Slots), mkListSlots args = some xs →
    (args = [] ∧ xs = .nil) ∨
    (∃ t r ys, args = .item t :: r ∧ xs = .item t ys ∧ mkListSlots r = some ys) ∨
    (∃ n r ys, args = .str n :: r ∧ xs = .var n ys ∧ mkListSlots r = some ys)
  | [] => fun xs h => .inl ⟨rfl, (Option.some.inj h).symm⟩
  | g :: r => fun xs h => by
    cases g <;> simp only [mkListSlots, Option.map_eq_some_iff, reduceCtorEq] at h
    all_goals obtain ⟨ys, hr, rfl⟩ := h
    · exact .inr (.inr ⟨_, r, ys, rfl, rfl, hr⟩)
    · exact .inr (.inl ⟨_, r, ys, rfl, rfl, hr⟩)

/-- an unsigned value above MaxInt64 is refused by the signed factory (never wrapped) -/
theorem int_refuses_big_unsigned (w k v : Nat) (pre post : List GoVal) (hv : v > 2 ^ 63 - 1) :
    mkInt w (pre ++ GoVal.uint k v :: post) = none := by
  refine Option.eq_none_iff_forall_ne_some.mpr fun t ht => ?_
  obtain ⟨xs, hs, _⟩ := mkInt_eq_some.mp ht
  rw [mkSlots_refused convInt pre post (by simp [toSlot, convInt, hv])] at hs
  cases hs

/-- a negative value is refused by the unsigned factory (never wrapped) -/
theorem uint_refuses_negative (w k : Nat) (v : Int) (pre post : List GoVal) (hv : v < 0) :
    mkUint w (pre ++ GoVal.sint k v :: post) = none := by
  refine Option.eq_none_iff_forall_ne_some.mpr fun t ht => ?_
  obtain ⟨xs, hs, _⟩ := mkUint_eq_some.mp ht
  rw [mkSlots_refused convUint pre post (by simp [toSlot, convUint, hv])] at hs
  cases hs

/-- ASCII: exactly the 7-bit strings within the limit, stored as given -/
theorem ascii_exact (s : Bytes) :
    mkAscii s = (if s.length ≤ 16777215 ∧ (∀ b ∈ s, b < 128) then some (.ascii s) else none) := by
  refine Option.ext fun t => ?_
  rw [mkAscii_eq_some, show (16777215 : Nat) = maxByteSize from rfl]
  simp only [Tmpl.wf, Bool.and_eq_true, decide_eq_true_eq, List.all_eq_true,
    Option.ite_none_right_eq_some, Option.some.injEq]

/-- ASCII variables: valid name and coherent bounds, nothing else -/
theorem ascii_var_exact (n : Name) (mn mx : Int) :
    mkAsciiVar n mn mx = (if isValidVarName n = true ∧ 0 ≤ mn ∧ -1 ≤ mx ∧ (mx = -1 ∨ mn ≤ mx)
                          then some (.asciiVar n mn mx) else none) := by
  refine Option.ext fun t => ?_
  simp only [mkAsciiVar_eq_some, Tmpl.wf, Bool.and_eq_true, decide_eq_true_eq, Bool.or_eq_true, beq_iff_eq,
    Option.ite_none_right_eq_some, Option.some.injEq, and_assoc]

/-- messages: the constructor accepts exactly the documented ranges -/
theorem msg_refusals (name : Bytes) (s f w : Int) (dir : Bytes) (item : Tmpl) (m : Msg)
    (h : mkMsg name s f w dir item = some m) :
    0 ≤ s ∧ s < 128 ∧ 0 ≤ f ∧ f < 256 ∧ 0 ≤ w ∧ w ≤ 2 ∧ ¬ (w = 1 ∧ f % 2 = 0) ∧
    (dir = dirHE ∨ dir = dirEH ∨ dir = dirBoth) ∧
    m = ⟨name, s, f, w, dir, item, -1, [0, 0, 0, 0]⟩ := by
  obtain ⟨hv, rfl⟩ := checked_eq_some.mp h
  obtain ⟨_, hs, hf, hwf, hw, _, _, hd⟩ := (Msg.valid_iff _).mp hv
  exact ⟨hs.1, hs.2, hf.1, hf.2, hw.1, hw.2, hwf, hd, rfl⟩

/-! ### the tie to the source: name grammar patterns and bounds -/

theorem facts_name_patterns :
    Generated.regexps.take 2 = [("ast.isValidVarName", "^[A-Za-z_]\\w*(\\[\\d+\\])*$"),
                                 ("ast.isEllipsis", "^\\.{3}(\\[\\d+\\])?$")] ∧
    Generated.msgCheckRepInts = [0, 128, 0, 256, 1, 2, 0, 0, 2, -1, 65536, 4] ∧
    Generated.maxByteSize = 16777215 := by decide

/-- every factory result is well formed (sizes within the limit, widths valid, integer and binary
values in range, every variable name valid, no name twice); the list factory given well-formed
items. The `checkRep` branches that panic with "rep invariant broken" are therefore dead code. -/
theorem factories_well_formed :
    (∀ w args t, mkInt w args = some t → t.wfS = true) ∧
    (∀ w args t, mkUint w args = some t → t.wfS = true) ∧
    (∀ w args t, mkFloat w args = some t → t.wfS = true) ∧
    (∀ args t, mkBinary args = some t → t.wfS = true) ∧
    (∀ args t, mkBoolean args = some t → t.wfS = true) ∧
    (∀ s t, mkAscii s = some t → t.wfS = true) ∧
    (∀ n mn mx t, mkAsciiVar n mn mx = some t → t.wfS = true) ∧
    (∀ args t, itemsWfS args = true → mkList args = some t → t.wfS = true) :=
  ⟨mkInt_wfS, mkUint_wfS, mkFloat_wfS, mkBinary_wfS, mkBoolean_wfS, mkAscii_wfS, mkAsciiVar_wfS,
    fun args t hi h => mkList_wfS args t h hi⟩

/-- for templates without F4/F8 items the fill keeps the FULL invariant `wf` (values in range
included) - any depth, nested ellipses included; with floats the value clause is the float
library's (`floatStore`), see `fill_well_formed` -/
theorem fill_well_formed_float_free (t t' : Tmpl) (env : Env) (hw : t.wf = true) (hf : t.floatFree = true)
    (henv : Env.itemsWfS env = true) (henvf : Env.itemsFF env = true) (h : t.fill env = some t') : t'.wf = true :=
  (t.fill_wf t' env hw hf henv henvf h).1

/-- a fill hands out a well-formed item or refuses -/
theorem fill_well_formed (t t' : Tmpl) (env : Env) (hw : t.wfS = true) (henv : Env.itemsWfS env = true)
    (h : t.fill env = some t') : t'.wfS = true := t.fill_wfS t' env hw henv h

/-! ### non-vacuity -/

example : (mkInt 1 [.sint 8 (-128), .str [120], .uint 64 127]).isSome = true := by decide
example : mkInt 1 [.sint 0 128] = none ∧ mkUint 8 [.sint 0 (-1)] = none ∧ mkInt 8 [.uint 0 (2 ^ 63)] = none := by decide

end Secs.C12
