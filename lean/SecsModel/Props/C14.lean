/-
C14 — HSMS control messages are built, classified and decoded per HSMS.

Closed forms of every constructor's 14 bytes; responses echo session id and system bytes and
refuse a request of the wrong kind; the reported type is a total function of (PType, SType);
decoding the bytes of any control message with a defined SType returns an equal message.
All for arbitrary session ids, system bytes and codes (no enumeration).
-/
import SecsModel.Proofs.MsgCodec
import SecsModel.Generated.Facts
namespace Secs.C14
open Secs

/-- the SType → name table of the standard -/
def typeTable (ptype stype : Nat) : String :=
  if ptype ≠ 0 then "undefined" else
  match stype with
  | 1 => "select.req" | 2 => "select.rsp" | 3 => "deselect.req" | 4 => "deselect.rsp"
  | 5 => "linktest.req" | 6 => "linktest.rsp" | 7 => "reject.req" | 9 => "separate.req"
  | _ => "undefined"

/-- the reported type is a total function of (PType, SType) -/
theorem type_total (b0 b1 b2 b3 pt st s0 s1 s2 s3 : Nat) :
    ctrlType [b0, b1, b2, b3, pt, st, s0, s1, s2, s3] = str (typeTable pt st) := by
  -- both sides compute once `pt` and `st` are numerals or a successor
  match pt, st with
  | 0, 1 | 0, 2 | 0, 3 | 0, 4 | 0, 5 | 0, 6 | 0, 7 | 0, 9 => rfl
  | 0, 0 | 0, 8 | 0, _ + 10 => rfl
  | _ + 1, _ => rfl

/-- every constructor yields: length 10, the session id, byte 2 and byte 3, PType 0, the SType
of its kind, the system bytes -/
theorem select_req_bytes (sid s0 s1 s2 s3 : Nat) (rest : Bytes) :
    (mkSelectReq sid (s0 :: s1 :: s2 :: s3 :: rest)).map ctrlEnc =
      some [0, 0, 0, 10, sid / 256 % 256, sid % 256, 0, 0, 0, 1, s0, s1, s2, s3] := rfl

theorem deselect_req_bytes (sid s0 s1 s2 s3 : Nat) (rest : Bytes) :
    (mkDeselectReq sid (s0 :: s1 :: s2 :: s3 :: rest)).map ctrlEnc =
      some [0, 0, 0, 10, sid / 256 % 256, sid % 256, 0, 0, 0, 3, s0, s1, s2, s3] := rfl

theorem linktest_req_bytes (s0 s1 s2 s3 : Nat) (rest : Bytes) :
    (mkLinktestReq (s0 :: s1 :: s2 :: s3 :: rest)).map ctrlEnc =
      some [0, 0, 0, 10, 255, 255, 0, 0, 0, 5, s0, s1, s2, s3] := rfl

theorem separate_req_bytes (sid s0 s1 s2 s3 : Nat) (rest : Bytes) :
    (mkSeparateReq sid (s0 :: s1 :: s2 :: s3 :: rest)).map ctrlEnc =
      some [0, 0, 0, 10, sid / 256 % 256, sid % 256, 0, 0, 0, 9, s0, s1, s2, s3] := rfl

/-- reject.req: byte 2 is the rejected SType, or the PType when the reason is 2 -/
theorem reject_req_bytes (sid pt st reason s0 s1 s2 s3 : Nat) (rest : Bytes) :
    (mkRejectReq sid pt st (s0 :: s1 :: s2 :: s3 :: rest) reason).map ctrlEnc =
      some [0, 0, 0, 10, sid / 256 % 256, sid % 256, if reason = 2 then pt else st, reason, 0, 7, s0, s1, s2, s3] := by
  by_cases h : reason = 2 <;> simp [mkRejectReq, ctrlWithSys, ctrlEnc, h]

theorem ctrlWithSys_short (b0 b1 b2 b3 stype : Nat) (sys : Bytes) (h : sys.length < 4) :
    ctrlWithSys b0 b1 b2 b3 stype sys = none := by
  match sys, h with
  | [], _ => rfl
  | [_], _ => rfl
  | [_, _], _ => rfl
  | [_, _, _], _ => rfl

/-- fewer than four system bytes: the constructor refuses (index out of range) -/
theorem short_system_bytes_refused (sid : Nat) (sys : Bytes) (h : sys.length < 4) : mkSelectReq sid sys = none :=
  ctrlWithSys_short _ _ _ _ _ sys h

theorem mkRsp_eq (kind : Bytes) (st : Nat) (link : Bool) (req : Bytes) (status : Nat) (h : ctrlType req = kind) :
    mkRsp kind st link req status =
      some [if link then 255 else req.getD 0 0, if link then 255 else req.getD 1 0, 0, status, 0, st,
        req.getD 6 0, req.getD 7 0, req.getD 8 0, req.getD 9 0] := by
  unfold mkRsp
  rw [if_neg (by rw [h]; simp)]

theorem mkRsp_ne (kind : Bytes) (st : Nat) (link : Bool) (req : Bytes) (status : Nat) (h : ctrlType req ≠ kind) :
    mkRsp kind st link req status = none := by
  unfold mkRsp
  rw [if_pos (bne_iff_ne.mpr h)]

/-- responses echo the session id and system bytes of the request and carry the status -/
theorem select_rsp_echo (b0 b1 b2 b3 s0 s1 s2 s3 status : Nat) :
    (mkSelectRsp [b0, b1, b2, b3, 0, 1, s0, s1, s2, s3] status).map ctrlEnc =
      some [0, 0, 0, 10, b0, b1, 0, status, 0, 2, s0, s1, s2, s3] := by
  rw [mkSelectRsp, mkRsp_eq (str "select.req") _ _ _ _ (type_total b0 b1 b2 b3 0 1 s0 s1 s2 s3)]
  rfl

theorem deselect_rsp_echo (b0 b1 b2 b3 s0 s1 s2 s3 status : Nat) :
    (mkDeselectRsp [b0, b1, b2, b3, 0, 3, s0, s1, s2, s3] status).map ctrlEnc =
      some [0, 0, 0, 10, b0, b1, 0, status, 0, 4, s0, s1, s2, s3] := by
  rw [mkDeselectRsp, mkRsp_eq (str "deselect.req") _ _ _ _ (type_total b0 b1 b2 b3 0 3 s0 s1 s2 s3)]
  rfl

theorem linktest_rsp_echo (b0 b1 b2 b3 s0 s1 s2 s3 : Nat) :
    (mkLinktestRsp [b0, b1, b2, b3, 0, 5, s0, s1, s2, s3]).map ctrlEnc =
      some [0, 0, 0, 10, 255, 255, 0, 0, 0, 6, s0, s1, s2, s3] := by
  rw [mkLinktestRsp, mkRsp_eq (str "linktest.req") _ _ _ _ (type_total b0 b1 b2 b3 0 5 s0 s1 s2 s3)]
  rfl

/-- a response constructor refuses every request that is not of its kind -/
theorem rsp_refuses_wrong_kind (req : Bytes) (status : Nat) :
    (ctrlType req ≠ str "select.req" → mkSelectRsp req status = none) ∧
    (ctrlType req ≠ str "deselect.req" → mkDeselectRsp req status = none) ∧
    (ctrlType req ≠ str "linktest.req" → mkLinktestRsp req = none) :=
  ⟨mkRsp_ne _ _ _ _ _, mkRsp_ne _ _ _ _ _, mkRsp_ne _ _ _ _ _⟩

theorem decode_ctrlEnc (b0 b1 b2 b3 st s0 s1 s2 s3 : Nat) (hst : st ≠ 0) :
    decode (ctrlEnc [b0, b1, b2, b3, 0, st, s0, s1, s2, s3]) =
      if (1 ≤ st ∧ st ≤ 7) ∨ st = 9 then some (.ctrl [b0, b1, b2, b3, 0, st, s0, s1, s2, s3]) else none := by
  have hf : frameOk (ctrlEnc [b0, b1, b2, b3, 0, st, s0, s1, s2, s3]) = true := rfl
  have hg : (ctrlEnc [b0, b1, b2, b3, 0, st, s0, s1, s2, s3]).getD 9 0 = st := rfl
  have hd : decodeCtrl (ctrlEnc [b0, b1, b2, b3, 0, st, s0, s1, s2, s3]) =
      some (.ctrl [b0, b1, b2, b3, 0, st, s0, s1, s2, s3]) := rfl
  unfold decode
  simp only [hf, hg, hd, Bool.not_true, Bool.false_eq_true, if_false, beq_eq_false_iff_ne.mpr hst,
    Bool.or_eq_true, Bool.and_eq_true, decide_eq_true_eq, beq_iff_eq]

/-- decoding the bytes of a control message with a defined SType returns an equal message -/
theorem ctrl_roundtrip (b0 b1 b2 b3 st s0 s1 s2 s3 : Nat)
    (hst : (1 ≤ st ∧ st ≤ 7) ∨ st = 9) :
    ∃ h, decode (ctrlEnc [b0, b1, b2, b3, 0, st, s0, s1, s2, s3]) = some (.ctrl h) ∧
      h = [b0, b1, b2, b3, 0, st, s0, s1, s2, s3] :=
  ⟨_, by rw [decode_ctrlEnc _ _ _ _ _ _ _ _ _ (by omega), if_pos hst], rfl⟩

/-- a control header followed by anything else, or an undefined SType, is not accepted -/
theorem undefined_stype_rejected (b0 b1 b2 b3 st s0 s1 s2 s3 : Nat) (hst : st = 8 ∨ st ≥ 10) :
    decode (ctrlEnc [b0, b1, b2, b3, 0, st, s0, s1, s2, s3]) = none := by
  rw [decode_ctrlEnc _ _ _ _ _ _ _ _ _ (by omega), if_neg (by omega)]

/-! ### the tie to the source -/

theorem facts_ctrl :
    Generated.ctrlTypeSwitch = [(1, "select.req"), (2, "select.rsp"), (3, "deselect.req"), (4, "deselect.rsp"),
      (5, "linktest.req"), (6, "linktest.rsp"), (7, "reject.req"), (9, "separate.req"), (-1, "undefined")] ∧
    Generated.astSTypes = [("sTypeDeselectReq", 3), ("sTypeDeselectRsp", 4), ("sTypeLinktestReq", 5),
      ("sTypeLinktestRsp", 6), ("sTypeRejectReq", 7), ("sTypeSelectReq", 1), ("sTypeSelectRsp", 2), ("sTypeSeparateReq", 9)] ∧
    Generated.hsmsSTypes = [("sTypeDataMessage", 0), ("sTypeDeselectReq", 3), ("sTypeDeselectRsp", 4),
      ("sTypeLinktestReq", 5), ("sTypeLinktestRsp", 6), ("sTypeRejectReq", 7), ("sTypeSelectReq", 1),
      ("sTypeSelectRsp", 2), ("sTypeSeparateReq", 9)] := by decide

end Secs.C14
