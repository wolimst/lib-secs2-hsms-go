/-
C09 — filling variables is pure substitution and composes.

Node level (`fillLeaf`): a fill whose keys name no variable of the node returns the node itself;
otherwise, on a signed, unsigned, boolean or binary array, the result IS the factory applied to
the node's slots with the bound variables replaced by the given values and everything else kept
in place (`fill_is_factory_on_substituted_slots`), so a fill-in value is refused exactly when the
constructor refuses it; rebuilding a well-formed node from its own slots gives the node back
(`rebuild_int`), which makes the substitution reading exact: unmentioned variables keep
their places and their order.

Tree level (`ItemNode.FillVariables`, any nesting depth, proofs in Proofs/FillLaws.lean):
* `unknown_keys_ignored`: a table that names no variable of a well-formed ellipsis-free
  template gives the template back (`Tmpl.fill_unbound` has it for templates with ellipses too);
* `unmentioned_remain_in_order`: the variables of the filled item are the template's variables
  without the bound ones, in their original order; the table binds nothing to the empty name
  (`e.get? [] = none`), under which `Variables()` shows an `emptyItemNode` inside a list;
* `compose`: if the first fill is accepted, filling its result with `e2` is filling the
  template once with the union `e1 ++ e2` — the same item or the same refusal — for
  ellipsis-free templates and closed fill-in values, exactly the property's quantifier;
* `compose_full`: the same as an equation of outcomes, refusals included:
  `fill t (e1 ++ e2) = (fill t e1).bind (fill · e2)` — a first step that is refused is refused
  in one step too (the offending value is still in the union);
* `compose_message`: the same for `DataMessage.FillVariables` (header fields are kept).

These laws, `unknown_keys_ignored` apart, exclude float nodes (`noFloatT`): the float factory
re-reads a stored 4-byte value through float64, and the round trip f32 → f64 → f32 of the
bit-level FloatLib model is not proved; float templates are covered by the correspondence run and
the "several steps = one step" oracle on the real code.
-/
import SecsModel.Proofs.FillLaws
-- the ties to the source of C12 and C15 (`facts_name_patterns`: the grammar of variable and ellipsis names;
-- `facts_size_lexer`) are checked with this property too
import SecsModel.Props.C15
import SecsModel.Proofs.FillWF
namespace Secs.C09
open Secs

theorem fill_unknown_keys (t : Tmpl) (env : Env) (hl : t.isList = false)
    (h : ∀ n ∈ t.vars, env.get? n = none) : fillLeaf t env = some t :=
  FillLeaf.fill_unknown_keys t env hl h

theorem fill_is_factory_on_substituted_slots (w : Nat) (env : Env) :
    (∀ xs, anyBound env xs = true → fillLeaf (.int w xs) env = mkInt w (xs.map (FillLeaf.substSlot (.sint 64) env))) ∧
    (∀ xs, anyBound env xs = true → fillLeaf (.uint w xs) env = mkUint w (xs.map (FillLeaf.substSlot (.uint 64) env))) ∧
    (∀ xs, anyBound env xs = true → fillLeaf (.boolean xs) env = mkBoolean (xs.map (FillLeaf.substSlot .bool env))) ∧
    (∀ xs, anyBound env xs = true → fillLeaf (.binary xs) env = mkBinary (xs.map (FillLeaf.substSlot (fun (v : Nat) => .sint 0 v) env))) :=
  FillLeaf.fill_is_factory_on_substituted_slots w env

theorem fill_ascii_var (n : Name) (mn mx : Int) (env : Env) (s : Bytes) (h : env.get? n = some (.str s)) :
    fillLeaf (.asciiVar n mn mx) env =
      if (s.length : Int) < mn ∨ (mx ≠ -1 ∧ mx < s.length) then none else mkAscii s :=
  FillLeaf.fill_ascii_var n mn mx env s h

theorem rebuild_int (w : Nat) (xs : List (Slot Int)) (hw : (Tmpl.int w xs).wf = true) :
    mkInt w (xs.map (FillLeaf.substSlot (.sint 64) [])) = some (.int w xs) :=
  FillLeaf.rebuild_int w xs hw

/-- on a well-formed node FillVariables is the factory on the substituted slots whether or not
a variable is bound: so "filled = constructed directly with the values in place" -/
theorem fill_is_construction (w : Nat) (e : Env) :
    (∀ xs, (Tmpl.int w xs).wf = true → fillLeaf (.int w xs) e = mkInt w (fillArgs (.sint 64) e xs)) ∧
    (∀ xs, (Tmpl.uint w xs).wf = true → fillLeaf (.uint w xs) e = mkUint w (fillArgs (.uint 64) e xs)) ∧
    (∀ xs, (Tmpl.boolean xs).wf = true → fillLeaf (.boolean xs) e = mkBoolean (fillArgs .bool e xs)) ∧
    (∀ xs, (Tmpl.binary xs).wf = true → fillLeaf (.binary xs) e = mkBinary (fillArgs (fun (v : Nat) => .sint 0 v) e xs)) :=
  ⟨fun xs h => fillLeaf_int w xs e h, fun xs h => fillLeaf_uint w xs e h,
   fun xs h => fillLeaf_boolean xs e h, fun xs h => fillLeaf_binary xs e h⟩

/-- unknown keys are ignored at every nesting depth -/
theorem unknown_keys_ignored (t : Tmpl) (env : Env) (hw : t.wf = true) (hn : noEllT t = true)
    (hu : ∀ v ∈ t.vars, env.get? v = none) : t.fill env = some t :=
  Tmpl.fill_unknown t env hw hn hu

/-- unmentioned variables remain, in their original order: `Variables()` of the result is
`Variables()` of the template with the filled names struck out -/
theorem unmentioned_remain_in_order (t t1 : Tmpl) (e : Env) (hw : t.wf = true) (hn : noEllT t = true)
    (hf : noFloatT t = true) (hc : closedOnT e t) (he : e.get? [] = none) (h : t.fill e = some t1) :
    t1.vars = t.vars.filter (fun v => (e.get? v).isNone) :=
  Tmpl.fill_vars t t1 e hw hn hf hc he h

/-- filling in two steps = filling once with the union of the tables -/
theorem compose (t t1 : Tmpl) (e1 e2 : Env) (hw : t.wf = true) (hn : noEllT t = true) (hf : noFloatT t = true)
    (hc : closedOnT e1 t) (h : t.fill e1 = some t1) : t1.fill e2 = t.fill (e1 ++ e2) :=
  Tmpl.fill_compose t t1 e1 e2 hw hn hf hc h

/-- the composition law as an equation of outcomes (accepted or refused) -/
theorem compose_full (t : Tmpl) (e1 e2 : Env) (hw : t.wf = true) (hn : noEllT t = true) (hf : noFloatT t = true)
    (hc : closedOnT e1 t) (he : e1.get? [] = none) :
    t.fill (e1 ++ e2) = (t.fill e1).bind (fun t1 => t1.fill e2) :=
  Tmpl.fill_compose_bind t e1 e2 hw hn hf hc he

/-- the same for messages: the header fields are carried along unchanged -/
theorem compose_message (m m1 : Msg) (e1 e2 : Env) (hw : m.item.wf = true) (hn : noEllT m.item = true)
    (hf : noFloatT m.item = true) (hc : closedOnT e1 m.item) (h : m.fill e1 = some m1) :
    m1.fill e2 = m.fill (e1 ++ e2) := by
  obtain ⟨t1, ht, _, rfl⟩ := Msg.fill_eq_some.mp h
  show (t1.fill e2).bind _ = (m.item.fill (e1 ++ e2)).bind _
  rw [compose m.item t1 e1 e2 hw hn hf hc ht]

/-- the message fill keeps every header field -/
theorem fill_keeps_header (m m1 : Msg) (e : Env) (h : m.fill e = some m1) :
    m1.name = m.name ∧ m1.stream = m.stream ∧ m1.function = m.function ∧ m1.waitBit = m.waitBit ∧
    m1.direction = m.direction ∧ m1.sessionID = m.sessionID ∧ m1.sysBytes = m.sysBytes := by
  obtain ⟨t1, _, _, rfl⟩ := Msg.fill_eq_some.mp h
  exact ⟨rfl, rfl, rfl, rfl, rfl, rfl, rfl⟩

/-! ### non-vacuity -/

example : (fillLeaf (.int 2 [.val 5, .var [120], .var [121]]) [([120], .sint 8 (-3))]).map Tmpl.vars
    = some [[121]] := by decide

example : (fillLeaf (.int 1 [.var [120]]) [([120], .sint 0 300)]).isNone = true := by decide

/-- a nested template `<L <U1 x 5> y <A z>>`, first table `{x: 3}`, second `{y: <A "a">, z: "hi"}` -/
def sampleT : Tmpl := .list (.item (.uint 1 [.var [120], .val 5]) (.var [121] (.item (.asciiVar [122] 0 (-1)) .nil)))
def sampleE1 : Env := [([120], .uint 8 3)]
def sampleE2 : Env := [([121], .item (.ascii [97])), ([122], .str [104, 105])]

example : sampleT.wf = true ∧ noEllT sampleT = true ∧ noFloatT sampleT = true := by decide
example : closedOnT sampleE1 sampleT := by
  simp only [sampleT, sampleE1, closedOnT, closedOnS, ClosedFor, slotVars]
  refine ⟨?_, ?_, trivial, trivial⟩
  · intro n hn s hs
    simp only [List.mem_cons, List.not_mem_nil, or_false] at hn
    subst hn
    simp [Env.get?] at hs
  · intro v hv
    simp [Env.get?] at hv

-- both routes are accepted and leave no variable: `<L[3] <U1[2] 3 5> <A "a"> <A "hi">>`
example : ((sampleT.fill sampleE1).bind (·.fill sampleE2)).map Tmpl.vars = some [] := by decide
example : ((sampleT.fill (sampleE1 ++ sampleE2)).map Tmpl.vars) = some [] := by decide
example : ((sampleT.fill sampleE1).map Tmpl.vars) = some [[121], [122]] := by decide
example : sampleT.vars = [[120], [121], [122]] ∧ sampleE1.get? [] = none := by decide

end Secs.C09
