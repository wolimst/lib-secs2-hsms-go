/-
Printed numbers read back: the decimal form of an unsigned or signed value, the `0b…` form of a
binary value and the `0x…` code of a character, read by ParseUint / ParseInt with base 0 (as the
SML parser calls them), are that value.
-/
import SecsModel.Proofs.Literals
namespace Secs
open Strconv

theorem decDigits_head (n : Nat) (h : 0 < n) : ∃ c r, decDigits n = c :: r ∧ 49 ≤ c ∧ c ≤ 57 := by
  induction n using Nat.strongRecOn with
  | _ n ih =>
    rw [decDigits]
    by_cases h10 : n < 10
    · simp only [h10, dite_true]
      exact ⟨48 + n, [], rfl, by omega, by omega⟩
    · simp only [h10, dite_false]
      obtain ⟨c, r, hcr, h1, h2⟩ := ih (n / 10) (by omega) (by omega)
      exact ⟨c, r ++ [48 + n % 10], by rw [hcr]; rfl, h1, h2⟩

theorem parseUint_decDigits (n bits : Nat) (hb : bits = 0 ∨ bits = 8 ∨ bits = 16 ∨ bits = 32 ∨ bits = 64)
    (hn : n < 2 ^ (if bits = 0 then 64 else bits)) : parseUint (decDigits n) 0 bits = ⟨n, none⟩ := by
  obtain ⟨hr, hv⟩ := decDigits_lit n
  have hd := digitsOf_dec 10 _ (by decide) hr
  have hmax : n ≤ 2 ^ (if (bits == 0) = true then 64 else bits) - 1 := by
    rw [show (if (bits == 0) = true then 64 else bits) = (if bits = 0 then 64 else bits) by simp]
    omega
  by_cases h0 : n = 0
  · -- `0` alone is read as octal with no digits
    subst h0
    rw [decDigits_small 0 (by decide)]
    exact parseUint_of_prefix [48] [] 8 bits (by simp) rfl (by decide) (by simp [digitsOf]) (Nat.zero_le _)
  · obtain ⟨c, r, hcr, hc⟩ := decDigits_head n (by omega)
    rw [hcr] at hd hv ⊢
    obtain ⟨_, _, _, _, hdec⟩ := uint_literal_denotes bits c r n hmax
    exact hdec hc hd hv

theorem intDec_of_nonneg (v : Int) (h : 0 ≤ v) : intDec v = decDigits v.toNat := by
  unfold intDec
  have : ¬ v < 0 := by omega
  simp only [this, if_false]
  congr 1
  omega

theorem parseInt_intDec (v : Int) (w : Nat) (hw : w = 1 ∨ w = 2 ∨ w = 4 ∨ w = 8)
    (hlo : -((2 ^ (8 * w - 1) : Nat) : Int) ≤ v) (hhi : v < ((2 ^ (8 * w - 1) : Nat) : Int)) :
    parseInt (intDec v) 0 (8 * w) = ⟨v, none⟩ := by
  have hB : (if ((8 * w) == 0) = true then 64 else 8 * w) = 8 * w := by
    rcases hw with h | h | h | h <;> subst h <;> rfl
  have hu : parseUint (decDigits v.natAbs) 0 (8 * w) = ⟨v.natAbs, none⟩ := by
    apply parseUint_decDigits
    · rcases hw with h | h | h | h <;> subst h <;> simp
    · -- |v| ≤ 2^(8w−1) < 2^(8w)
      rw [if_neg (by omega), show 8 * w = (8 * w - 1) + 1 by omega, Nat.pow_succ]
      omega
  have hsplit : splitSign (intDec v) = (decide (v < 0), decDigits v.natAbs) := by
    unfold intDec
    by_cases hv : v < 0
    · simp [hv, splitSign]
    · simp only [hv, if_false, decide_false]
      exact splitSign_unsigned _ (fun c r h => by have := (decDigits_lit v.natAbs).1 c (by rw [h]; simp); omega)
  have hne : intDec v ≠ [] := by
    unfold intDec; split
    · simp
    · exact decDigits_ne_nil _
  rw [parseInt_of_parseUint (intDec v) _ _ 0 (8 * w) (8 * w) v.natAbs hne hsplit hB hu
    (by generalize 2 ^ (8 * w - 1) = K at hlo hhi ⊢; by_cases hv : v < 0 <;> simp [hv] <;> omega)]
  by_cases hv : v < 0 <;> simp [hv] <;> omega

theorem binDigits_lit (n : Nat) : (∀ c ∈ binDigits n, 48 ≤ c ∧ c < 48 + 2) ∧ litVal 2 (binDigits n) = n :=
  digits_spec 2 (by decide) binDigits (fun n => by rw [binDigits]; split <;> simp [*]) n

theorem parseInt_bin (n : Nat) (h : n < 2 ^ 63) : parseInt ([48, 98] ++ binDigits n) 0 0 = ⟨n, none⟩ := by
  obtain ⟨hr, hv⟩ := binDigits_lit n
  have hd := digitsOf_dec 2 _ (by decide) hr
  obtain ⟨c, r, hcr⟩ : ∃ c r, binDigits n = c :: r := by
    cases hbd : binDigits n with
    | nil => rw [binDigits] at hbd; split at hbd <;> simp at hbd
    | cons c r => exact ⟨c, r, rfl⟩
  rw [hcr] at hd hv ⊢
  obtain ⟨_, hbin, _⟩ := uint_literal_denotes 0 c r n (by simp; omega)
  exact parseInt_of_parseUint _ _ false 0 0 64 n (by simp) rfl rfl (hbin 98 (Or.inl rfl) hd hv) h

theorem digitVal_hexDigitUpper (d : Nat) (h : d < 16) : digitVal (hexDigitUpper d) = some d := by
  unfold hexDigitUpper
  split
  · rw [digitVal_dec _ (by omega)]
    congr 1; omega
  · have hu : isUpperB (55 + d) = true := by simp [isUpperB]; omega
    have hnd : isDigitB (55 + d) = false := by simp [isDigitB]; omega
    simp only [digitVal, hnd, isAlphaB, hu, lowerB, Bool.true_or, if_true, Bool.false_eq_true, if_false]
    congr 1; omega

/-- two hexadecimal digits spell sixteen times the first plus the second -/
theorem parseUint_hexcode : ∀ ch : Fin 128,
    parseUint ([48, 120] ++ [hexDigitUpper (ch.val / 16 % 16), hexDigitUpper (ch.val % 16)]) 0 0 = ⟨ch.val, none⟩ := by
  intro ch
  have h1 := digitVal_hexDigitUpper (ch.val / 16 % 16) (Nat.mod_lt _ (by decide))
  have h2 := digitVal_hexDigitUpper (ch.val % 16) (Nat.mod_lt _ (by decide))
  obtain ⟨hhex, _⟩ := uint_literal_denotes 0 _ _ ch.val (by have := ch.isLt; simp; omega)
  refine hhex 120 (Or.inl rfl) ?_ ?_
  · intro c hc
    simp only [List.mem_cons, List.not_mem_nil, or_false] at hc
    rcases hc with rfl | rfl
    · exact ⟨_, h1, Nat.mod_lt _ (by decide)⟩
    · exact ⟨_, h2, Nat.mod_lt _ (by decide)⟩
  · simp only [litVal, List.foldl_cons, List.foldl_nil, h1, h2, Option.getD_some]
    have := ch.isLt
    omega

end Secs
