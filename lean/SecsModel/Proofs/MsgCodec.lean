/- Message level: the frame, how `decode` succeeds, and the bytes of a complete message
(C01, C02, C03, C16). -/
import SecsModel.Proofs.Denotes
import SecsModel.Proofs.Factories
namespace Secs

theorem decodeText_eq_some (text : Bytes) (t : Tmpl) :
    decodeText text = some t ↔ decItem (text.length + 1) text = some (t, []) := by
  unfold decodeText
  constructor
  · intro h
    split at h
    · rename_i t' heq; injection h with h; subst h; exact heq
    · cases h
  · intro h; rw [h]

/-- the decoder, with its own fuel, on what denotes an item -/
theorem decodeText_denotes (t : Tmpl) (p : Bytes) (h : Spec.Denotes p t) : decodeText p = some t := by
  have := dec_complete t p h [] (p.length + 1) (by have := denotes_sz t p h; omega)
  rw [List.append_nil] at this
  exact (decodeText_eq_some p t).mpr this

/-- the text of a data message is decoded to an item iff it denotes that item -/
theorem decodeText_iff (text : Bytes) (hb : IsBytes text) (t : Tmpl) :
    decodeText text = some t ↔ Spec.Denotes text t := by
  refine ⟨fun h => ?_, decodeText_denotes t text⟩
  obtain ⟨p, hp, hd⟩ := dec_sound _ _ _ _ ((decodeText_eq_some _ _).mp h) hb
  rw [List.append_nil] at hp
  exact hp ▸ hd

theorem decodeText_enc (t : Tmpl) (hw : t.wf = true) (hc : t.closed = true) : decodeText t.enc = some t :=
  decodeText_denotes t _ (encodes_denotes t _ (enc_sound t hw hc))

theorem beEnc2 (n : Nat) : beEnc 2 n = [n / 256 % 256, n % 256] := by simp [beEnc]
theorem beEnc4 (n : Nat) : beEnc 4 n = [n / 256 / 256 / 256 % 256, n / 256 / 256 % 256, n / 256 % 256, n % 256] := by
  simp [beEnc]

theorem length4 (l : Bytes) (h : l.length = 4) : ∃ a b c d, l = [a, b, c, d] := by
  match l, h with
  | [a, b, c, d], _ => exact ⟨a, b, c, d, rfl⟩

theorem mkHsmsMsg_eq_some {name : Bytes} {st fn wb : Int} {dir : Bytes} {item : Tmpl} {sid : Int} {sys : Bytes}
    {m : Msg} : mkHsmsMsg name st fn wb dir item sid sys = some m ↔
      (wb = 0 ∨ wb = 1) ∧ sid ≠ -1 ∧ item.vars.isEmpty = true ∧
      Msg.valid ⟨name, st, fn, wb, dir, item, sid, pad4 sys⟩ = true ∧ ⟨name, st, fn, wb, dir, item, sid, pad4 sys⟩ = m := by
  unfold mkHsmsMsg
  by_cases h1 : wb = 0 ∨ wb = 1
  · by_cases h2 : sid = -1
    · simp [h1, h2]
    · by_cases h3 : item.vars.isEmpty = true
      · have h1' : (wb != 0 && wb != 1) = false := by rcases h1 with rfl | rfl <;> rfl
        simp [h1, h1', h2, h3, checked_eq_some]
      · have h1' : (wb != 0 && wb != 1) = false := by rcases h1 with rfl | rfl <;> rfl
        simp [h1', h2, h3]
  · have h1' : (wb != 0 && wb != 1) = true := by
      simp only [not_or] at h1
      simp [h1.1, h1.2]
    simp [h1, h1']

theorem frameOk_iff (b : Bytes) :
    frameOk b = true ↔ 14 ≤ b.length ∧ beDec (b.take 4) + 4 = b.length ∧ b.getD 8 0 = 0 := by
  simp only [frameOk, Bool.and_eq_true, Bool.not_eq_true', decide_eq_false_iff_not, beq_iff_eq, List.length_drop]
  omega

theorem decode_eq_some (inp : Bytes) (m : HMsg) : decode inp = some m ↔
    frameOk inp = true ∧
    ((inp.getD 9 0 = 0 ∧ decodeData inp = some m) ∨
     (((1 ≤ inp.getD 9 0 ∧ inp.getD 9 0 ≤ 7) ∨ inp.getD 9 0 = 9) ∧ decodeCtrl inp = some m)) := by
  unfold decode
  generalize inp.getD 9 0 = st
  by_cases hf : frameOk inp = true
  · by_cases h0 : st = 0
    · simp [hf, h0]
    · by_cases hc : (1 ≤ st ∧ st ≤ 7) ∨ st = 9 <;> simp [hf, h0, hc]
  · simp [hf]

theorem decodeData_some (inp : Bytes) (m : HMsg) (h : decodeData inp = some m) :
    ∃ item m', m = .data m' ∧ m'.item = item ∧ m'.valid = true ∧
      ((beDec (inp.take 4) = 10 ∧ item = .empty) ∨ decodeText (inp.drop 14) = some item) := by
  unfold decodeData at h
  simp only at h
  split at h
  · cases h
  · rename_i item hitem
    rw [Option.map_eq_some_iff] at h
    obtain ⟨m', hmk, rfl⟩ := h
    obtain ⟨_, _, _, hv, hm⟩ := mkHsmsMsg_eq_some.mp hmk
    refine ⟨item, m', rfl, by rw [← hm], hm ▸ hv, ?_⟩
    split at hitem
    · rename_i h10
      exact Or.inl ⟨by simpa using h10, (Option.some.inj hitem).symm⟩
    · exact Or.inr hitem

/-- a control message is accepted iff the length field says "a header and nothing else"; it is then
the ten header bytes -/
theorem decodeCtrl_eq_some (inp : Bytes) (m : HMsg) : decodeCtrl inp = some m ↔
    beDec (inp.take 4) = 10 ∧
      m = .ctrl ((inp.drop 4).take 10 ++ List.replicate (10 - ((inp.drop 4).take 10).length) 0) := by
  have hl : ¬ ((inp.drop 4).take 10).length > 10 := by rw [List.length_take]; omega
  unfold decodeCtrl mkCtrl
  by_cases h : beDec (inp.take 4) = 10
  · simp only [h, bne_self_eq_false, Bool.false_eq_true, if_false, hl, Option.map_some, Option.some.injEq, true_and, eq_comm]
  · simp only [bne_iff_ne, ne_eq, h, not_false_eq_true, if_true, reduceCtorEq, false_and]

/-- header byte 2 carries the W-bit above the stream: both are read back -/
theorem byte2_readback (s w : Int) (hs : 0 ≤ s ∧ s < 128) (hw : w = 0 ∨ w = 1) :
    (((s.toNat + (if w == 1 then 128 else 0)) % 256 % 128 : Nat) : Int) = s ∧
    (((s.toNat + (if w == 1 then 128 else 0)) % 256 / 128 : Nat) : Int) = w := by
  obtain ⟨n, rfl⟩ := Int.eq_ofNat_of_zero_le hs.1
  have hn : n < 128 := by omega
  rw [Int.toNat_natCast]
  rcases hw with rfl | rfl
  · rw [if_neg (by decide), Nat.add_zero, Nat.mod_eq_of_lt (show n < 256 by omega), Nat.mod_eq_of_lt hn,
      Nat.div_eq_of_lt hn]
    exact ⟨rfl, rfl⟩
  · rw [if_pos (by decide), Nat.mod_eq_of_lt (show n + 128 < 256 by omega), Nat.add_mod_right,
      Nat.mod_eq_of_lt hn, Nat.add_div_right n (by decide), Nat.div_eq_of_lt hn]
    exact ⟨rfl, rfl⟩

theorem sid_readback (sid : Int) (h : 0 ≤ sid ∧ sid < 65536) :
    ((beDec [sid.toNat / 256 % 256, sid.toNat % 256] : Nat) : Int) = sid := by
  rw [← beEnc2, beDec_beEnc 2 _ ((Int.toNat_lt h.1).mpr h.2), Int.toNat_of_nonneg h.1]

theorem fn_readback (f : Int) (h : 0 ≤ f ∧ f < 256) : ((f.toNat % 256 : Nat) : Int) = f := by
  rw [Nat.mod_eq_of_lt ((Int.toNat_lt h.1).mpr h.2), Int.toNat_of_nonneg h.1]

theorem decode_frame (x y b2 fn a b c d : Nat) (text : Bytes) (hL : text.length + 10 < 256 ^ 4) :
    decode (beEnc 4 (text.length + 10) ++ (x :: y :: b2 :: fn :: 0 :: 0 :: a :: b :: c :: d :: text)) =
    match (if text.length + 10 == 10 then some Tmpl.empty else decodeText text) with
    | none => none
    | some item =>
      (mkHsmsMsg [] ((b2 % 128 : Nat) : Int) ((fn : Nat) : Int) ((b2 / 128 : Nat) : Int) dirBoth item
        ((beDec [x, y] : Nat) : Int) [a, b, c, d]).map HMsg.data := by
  have hfo : frameOk (beEnc 4 (text.length + 10) ++ (x :: y :: b2 :: fn :: 0 :: 0 :: a :: b :: c :: d :: text)) = true := by
    unfold frameOk
    simp only [List.take_left' (beEnc_length 4 _), List.drop_left' (beEnc_length 4 _), beDec_beEnc 4 _ hL]
    simp [beEnc4]
  have hst : (beEnc 4 (text.length + 10) ++ (x :: y :: b2 :: fn :: 0 :: 0 :: a :: b :: c :: d :: text)).getD 9 0 = 0 := by
    simp [beEnc4]
  unfold decode
  simp only [hfo, Bool.not_true, Bool.false_eq_true, if_false, hst, beq_self_eq_true, if_true]
  unfold decodeData
  simp only [List.take_left' (beEnc_length 4 _), List.drop_left' (beEnc_length 4 _), beDec_beEnc 4 _ hL]
  have hd14 : (beEnc 4 (text.length + 10) ++ (x :: y :: b2 :: fn :: 0 :: 0 :: a :: b :: c :: d :: text)).drop 14 = text := by
    simp [beEnc4]
  rw [hd14]
  simp only [List.take, List.drop, List.getD_cons_succ, List.getD_cons_zero]
  rfl

theorem enc_frame (m : Msg) (hc : m.complete = true) (a b c d : Nat) (hs : m.sysBytes = [a, b, c, d]) :
    m.enc = beEnc 4 (m.item.enc.length + 10) ++
      (m.sessionID.toNat / 256 % 256 :: m.sessionID.toNat % 256 ::
       (m.stream.toNat + (if m.waitBit == 1 then 128 else 0)) % 256 :: m.function.toNat % 256 :: 0 :: 0 ::
       a :: b :: c :: d :: m.item.enc) := by
  unfold Msg.enc
  simp [hc, hs, beEnc2]

end Secs
