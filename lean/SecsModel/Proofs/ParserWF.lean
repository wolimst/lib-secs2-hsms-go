/-
Every item the SML parser hands out is well formed (`Tmpl.wfS`, Proofs/FillWF.lean): the parser
builds items only through the factories, bottom up, so the invariant of the factories carries
over to whatever `parse` returns - for every input, accepted or not, at any nesting depth.
In particular no variable name occurs twice anywhere in a parsed message, and ellipses stand
only where a list may have one.
-/
import SecsModel.Proofs.ParserFuel
import SecsModel.Proofs.FillWF
namespace Secs.Sml
open Secs Secs.Lex

/-- a sub-parser result that, when it is an item, is a well-formed one -/
def OkWf (r : R Tmpl) : Prop := ∀ t, r = .ok t → t.wfS = true

theorem okWf_stop : OkWf .stop := fun _ h => by cases h
theorem okWf_panic : OkWf .panic := fun _ h => by cases h

theorem okWf_ofFactory (o : Option Tmpl) (h : ∀ t, o = some t → t.wfS = true) : OkWf (ofFactory o) := by
  intro t ht
  cases o with
  | none => simp [ofFactory] at ht
  | some t' => simp only [ofFactory, R.ok.injEq] at ht; subst ht; exact h t' rfl

theorem okWf_ok {t : Tmpl} (h : t.wfS = true) : OkWf (.ok t) := fun _ e => by cases e; exact h

theorem asciiLoop_wf (mn mx : Int) (n : Nat) (ts : List Tok) (lit : Bytes) (s : PS) : OkWf (asciiLoop mn mx n ts lit s).1 := by
  fun_induction asciiLoop mn mx n ts lit s
  case case1 => exact okWf_ofFactory _ (mkAscii_wfS _)
  case case7 => exact okWf_ok rfl
  case case8 => exact okWf_ofFactory _ (mkAsciiVar_wfS _ _ _)
  -- the loop goes on with the next token, or stops
  all_goals first | assumption | exact okWf_stop

theorem asciiItem_wf (lo hi : Int) (s : PS) : OkWf (asciiItem lo hi s).1 :=
  asciiLoop_wf _ _ _ _ _ _

theorem dispatch_wfS (ty : Bytes) (w : Nat) (gs : List GoVal) (t : Tmpl) : dispatch ty w gs = some t → t.wfS = true := by
  fun_cases dispatch ty w gs
  · exact mkBinary_wfS _ t
  · exact mkBoolean_wfS _ t
  · exact mkFloat_wfS _ _ t
  · exact mkInt_wfS _ _ t
  · exact mkUint_wfS _ _ t

theorem arrayItem_wf (ty : Bytes) (s : PS) : OkWf (arrayItem ty s).1 := by
  rw [arrayItem_eq]
  dsimp only
  generalize (arrayArgs ty _ _ _).1 = o
  cases o with
  | none => exact okWf_stop
  | some gs => exact okWf_ofFactory _ (dispatch_wfS ty _ gs)

theorem closeTail_wf (item : Tmpl) (s : PS) (h : item.wfS = true) : OkWf (closeTail item s).1 := by
  fun_cases closeTail item s
  · exact okWf_stop
  · exact okWf_ok h

theorem closeItem_wf (sizeTok : Tok) (lo hi : Int) (res : R Tmpl) (s : PS) (h : OkWf res) :
    OkWf (closeItem sizeTok lo hi res s).1 := by
  fun_cases closeItem sizeTok lo hi res s
  · exact okWf_stop
  · exact okWf_panic
  · exact closeTail_wf _ _ (h _ rfl)
  · exact closeTail_wf _ _ (h _ rfl)

theorem recoverItem_wf (lab : Tok) (body : R Tmpl × PS) (h : OkWf body.1) : OkWf (recoverItem lab body).1 := by
  fun_cases recoverItem lab body
  · exact okWf_stop
  · exact h

theorem itemBody_wf (ll : PS → R Tmpl × PS) (hll : ∀ s, OkWf (ll s).1) (s : PS) : OkWf (itemBody ll s).1 := by
  fun_cases itemBody ll s
  · exact okWf_stop
  · exact okWf_stop
  · rename_i r
    refine closeItem_wf _ _ _ _ _ ?_
    simp only [r]
    split
    · exact hll _
    · split
      · exact asciiItem_wf _ _ _
      · exact arrayItem_wf _ _

theorem itemsWfS_reverse (acc : List GoVal) (h : itemsWfS acc = true) : itemsWfS acc.reverse = true :=
  (itemsWfS_iff _).mpr fun u hu => (itemsWfS_iff acc).mp h u (List.mem_reverse.mp hu)

theorem parseItem_wf : ∀ fuel : Nat,
    (∀ s : PS, OkWf (parseItemF fuel s).1) ∧
    (∀ (count : Nat) (acc : List GoVal) (s : PS), itemsWfS acc = true → OkWf (parseItemF.listLoop fuel count acc s).1)
  | 0 => ⟨fun _ => okWf_stop, fun _ _ _ _ => okWf_stop⟩
  | fuel + 1 => by
    have ih := parseItem_wf fuel
    constructor
    · intro s
      unfold parseItemF
      dsimp only
      split
      · exact okWf_stop
      · exact recoverItem_wf _ _ (itemBody_wf _ (fun s' => ih.2 0 [] s' rfl) s.pop)
    · intro count acc s hacc
      unfold parseItemF.listLoop
      dsimp only
      split
      · have h1 := ih.1 s
        split
        · rename_i h
          rw [h] at h1
          exact ih.2 _ _ _ (by simp only [itemsWfS, Bool.and_eq_true]; exact ⟨h1 _ rfl, hacc⟩)
        · exact okWf_stop
      · split
        · exact ih.2 _ _ _ (by simp only [itemsWfS, Bool.and_eq_true]; exact ⟨rfl, hacc⟩)
        · exact ih.2 _ _ _ (by simpa [itemsWfS] using hacc)
      · split
        · exact okWf_stop
        · split
          · exact ih.2 _ _ _ (by simpa [itemsWfS] using hacc)
          · exact ih.2 _ _ _ (by simpa [itemsWfS] using hacc)
      · exact okWf_ofFactory _ (fun t h => mkList_wfS _ t h (itemsWfS_reverse acc hacc))
      · exact okWf_stop
      · exact okWf_stop

theorem msgItem_wf (s : PS) : OkWf (msgItem s).1 := by
  fun_cases msgItem s
  · exact okWf_ok rfl
  · exact (parseItem_wf _).1 s
  · exact okWf_stop

theorem finishMsg_wf (name : Bytes) (st fn wb : Int) (dir : Bytes) (item : R Tmpl) (s : PS) (h : OkWf item) (m : Msg)
    (hm : (finishMsg name st fn wb dir item s).1 = some (some m)) : m.valid = true ∧ m.item.wfS = true := by
  cases item with
  | stop => rw [finishMsg_stop] at hm; cases hm
  | panic => rw [finishMsg_panic] at hm; cases hm
  | ok it =>
    rw [finishMsg_ok] at hm
    split at hm
    · cases hm
    · obtain ⟨hv, rfl⟩ := checked_eq_some.mp (Option.some.inj hm)
      exact ⟨hv, h it rfl⟩

theorem parseMessage_wf (s : PS) (m : Msg) (hm : (parseMessage s).1 = some (some m)) :
    m.valid = true ∧ m.item.wfS = true := by
  rcases parseMessage_run s with ⟨_, e⟩ | ⟨_, name, st, fn, wb, dir, e⟩ <;> rw [e] at hm
  · cases hm
  · exact finishMsg_wf _ _ _ _ _ _ _ (msgItem_wf _) m hm

-- patterns on the analysed argument only, the rest by `fun`: a pattern over all arguments builds a matcher over each
theorem parseLoop_wf : ∀ (fuel : Nat) (s : PS) (acc : List Msg) (msgs : List Msg) (s' : PS),
    (∀ m ∈ acc, m.valid = true ∧ m.item.wfS = true) → parseLoop fuel s acc = some (msgs, s') →
    ∀ m ∈ msgs, m.valid = true ∧ m.item.wfS = true
  | 0 => fun s acc msgs s' hacc h => by
    simp only [parseLoop, Option.some.injEq, Prod.mk.injEq] at h
    exact fun m hm => hacc m (List.mem_reverse.mp (h.1 ▸ hm))
  | fuel + 1 => fun s acc msgs s' hacc h => by
    -- the loop ends with the messages it has, or goes on with one more from `parseMessage`
    have ends : ∀ x : PS, some (acc.reverse, x) = some (msgs, s') → ∀ m ∈ msgs, m.valid = true ∧ m.item.wfS = true :=
      fun x e m hm => hacc m (List.mem_reverse.mp ((Prod.mk.inj (Option.some.inj e)).1 ▸ hm))
    unfold parseLoop at h
    split at h
    · exact ends _ h
    · split at h
      · exact ends _ h
      · cases h
      · rename_i m1 s1 hpm
        refine parseLoop_wf fuel s1 (m1 :: acc) msgs s' (fun m hm => ?_) h
        rcases List.mem_cons.mp hm with rfl | hm
        · exact parseMessage_wf s m (by rw [hpm])
        · exact hacc m hm

theorem parseToks_wf (toks : List Tok) (msgs : List Msg) (errs warns : List Diag)
    (h : parseToks toks = .done msgs errs warns) : ∀ m ∈ msgs, m.valid = true ∧ m.item.wfS = true := by
  obtain ⟨ms', s, hl, _, _, hm⟩ := parseToks_done toks msgs errs warns h
  rcases hm with ⟨_, rfl⟩ | ⟨_, rfl⟩
  · exact parseLoop_wf _ _ [] msgs s (fun _ hm => nomatch hm) hl
  · exact fun _ hm => nomatch hm

/-- **sml.Parse hands out valid messages with well-formed items only**, for every input -/
theorem parse_valid_wf (ual : List Nat) (input : Bytes) (msgs : List Msg) (errs warns : List Diag)
    (h : parse ual input = .done msgs errs warns) : ∀ m ∈ msgs, m.valid = true ∧ m.item.wfS = true :=
  parseToks_wf _ msgs errs warns h

theorem parse_wf (ual : List Nat) (input : Bytes) (msgs : List Msg) (errs warns : List Diag)
    (h : parse ual input = .done msgs errs warns) : ∀ m ∈ msgs, m.item.wfS = true :=
  fun m hm => (parse_valid_wf ual input msgs errs warns h m hm).2

end Secs.Sml
