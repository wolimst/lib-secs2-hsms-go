/-
The parser only ever drops tokens from the front, every recursive call drops at least one, and so
the fuel the model hands to its recursive parts (`toks.length + 1`) is more than enough: any fuel
above the number of tokens gives the same result.

`f_suf` says that the tokens `f` leaves are a suffix of those it found: the parser's counterpart of the
scanners' `_prefix` (the bytes read are a prefix of the input). `_prefix` in Proofs/ParserConcat is
something else, a run on a prefix of the token stream. `parseItem_X` is the conjunction of `X` for
`parseItemF` and for its `listLoop`, by one induction on the fuel; `parseItemF_X` is `X` for
`parseItemF` alone.
-/
import SecsModel.Proofs.ParserState
namespace Secs
namespace Sml
open Lex

theorem suf_pop (s : PS) : s.pop.toks <:+ s.toks := List.drop_suffix 1 s.toks
theorem suf_pop_of {a : List Tok} (s : PS) (h : s.toks <:+ a) : s.pop.toks <:+ a :=
  List.IsSuffix.trans (suf_pop s) h

theorem valueTokens_suf (fuel : Nat) (s : PS) : (valueTokens fuel s).2.toks <:+ s.toks := by
  fun_induction valueTokens fuel s
  case case1 | case6 => exact List.suffix_refl _
  case case7 => exact suf_pop _
  all_goals
    rename_i h ih
    rw [h] at ih
    exact ih.trans (suf_pop _)

theorem sizeDecl_suf (s : PS) : (sizeDecl s).2.2.2.toks <:+ s.toks := by
  fun_cases sizeDecl s
  · exact suf_pop s
  · exact List.suffix_refl _

theorem asciiItem_suf (lo hi : Int) (s : PS) : (asciiItem lo hi s).2.toks <:+ s.toks := by
  unfold asciiItem
  rw [asciiLoop_toks]
  exact valueTokens_suf _ s

theorem arrayItem_suf (ty : Bytes) (s : PS) : (arrayItem ty s).2.toks <:+ s.toks := by
  rw [arrayItem_eq]
  dsimp only
  rw [arrayArgs_toks]
  exact valueTokens_suf _ s

theorem closeTail_suf (item : Tmpl) (s : PS) : (closeTail item s).2.toks <:+ s.toks := by
  fun_cases closeTail item s
  · exact List.suffix_refl _
  · exact suf_pop s

theorem closeItem_suf (sizeTok : Tok) (lo hi : Int) (res : R Tmpl) (s : PS) :
    (closeItem sizeTok lo hi res s).2.toks <:+ s.toks := by
  fun_cases closeItem sizeTok lo hi res s
  · exact List.suffix_refl _
  · exact List.suffix_refl _
  · exact closeTail_suf _ _
  · exact closeTail_suf _ _

theorem recoverItem_toks (lab : Tok) (body : R Tmpl × PS) : (recoverItem lab body).2.toks = body.2.toks := by
  fun_cases recoverItem lab body <;> rfl

theorem itemBody_suf (ll : PS → R Tmpl × PS) (hll : ∀ s, (ll s).2.toks <:+ s.toks) (s : PS) :
    (itemBody ll s).2.toks <:+ s.toks := by
  -- `fun_cases` and not `unfold; split`: every `split` abstracts the large body of `itemBody` again
  fun_cases itemBody ll s
  · exact List.suffix_refl _
  · exact suf_pop s
  · rename_i r
    refine (closeItem_suf _ _ _ _ _).trans (.trans ?_ ((sizeDecl_suf s.pop).trans (suf_pop s)))
    simp only [r]
    split
    · exact hll _
    · split
      · exact asciiItem_suf _ _ _
      · exact arrayItem_suf _ _

theorem parseItem_suf : ∀ fuel : Nat,
    (∀ s : PS, (parseItemF fuel s).2.toks <:+ s.toks) ∧
    (∀ (count : Nat) (acc : List GoVal) (s : PS), (parseItemF.listLoop fuel count acc s).2.toks <:+ s.toks)
  | 0 => ⟨fun _ => List.suffix_refl _, fun _ _ _ => List.suffix_refl _⟩
  | fuel + 1 => by
    have ih := parseItem_suf fuel
    constructor
    · intro s
      unfold parseItemF
      dsimp only
      split
      · exact List.suffix_refl _
      · rw [recoverItem_toks]
        exact (itemBody_suf _ (ih.2 0 []) s.pop).trans (suf_pop s)
    · intro count acc s
      unfold parseItemF.listLoop
      dsimp only
      split
      · have h1 := ih.1 s
        split
        · rename_i h; rw [h] at h1; exact (ih.2 _ _ _).trans h1
        · rename_i h; rw [h] at h1; exact h1
      · split <;> exact (ih.2 _ _ _).trans (suf_pop s)
      · split
        · exact suf_pop s
        · split <;> exact (ih.2 _ _ _).trans (suf_pop s)
      · exact List.suffix_refl _
      · exact List.suffix_refl _
      · exact List.suffix_refl _

theorem waitBitOf_suf (fn : Int) (s : PS) : (waitBitOf fn s).2.toks <:+ s.toks := by
  fun_cases waitBitOf fn s
  · exact suf_pop s
  · exact suf_pop s
  · exact suf_pop s
  · exact List.suffix_refl _

theorem directionOf_suf (s : PS) : (directionOf s).2.toks <:+ s.toks := by
  fun_cases directionOf s
  · exact suf_pop s
  · exact List.suffix_refl _

theorem nameOf_suf (s : PS) : (nameOf s).2.toks <:+ s.toks := by
  fun_cases nameOf s
  · exact suf_pop s
  · exact List.suffix_refl _

theorem msgItem_suf (s : PS) : (msgItem s).2.toks <:+ s.toks := by
  fun_cases msgItem s
  · exact List.suffix_refl _
  · exact (parseItem_suf _).1 s
  · exact List.suffix_refl _

theorem finishMsg_suf (name : Bytes) (st fn wb : Int) (dir : Bytes) (item : R Tmpl) (s : PS) :
    (finishMsg name st fn wb dir item s).2.toks <:+ s.toks := by
  cases item with
  | stop => exact List.suffix_refl _
  | panic => exact List.suffix_refl _
  | ok it =>
    rw [finishMsg_ok]
    split
    · exact List.suffix_refl _
    · exact suf_pop s

theorem preItem_suf (s : PS) : (preItem s).toks <:+ s.pop.toks := by
  unfold preItem
  dsimp only
  refine List.IsSuffix.trans (nameOf_suf _) ?_
  refine List.IsSuffix.trans (directionOf_suf _) ?_
  refine List.IsSuffix.trans (waitBitOf_suf _ _) ?_
  rw [streamFunction_toks]
  exact List.suffix_refl _

theorem preFinish_suf (s : PS) : (preFinish s).toks <:+ s.pop.toks := by
  rw [preFinish_eq]
  exact (msgItem_suf _).trans (preItem_suf s)

theorem parseMessage_suf (s : PS) : (parseMessage s).2.toks <:+ s.toks := by
  rcases parseMessage_run s with ⟨_, h⟩ | ⟨_, name, st, fn, wb, dir, h⟩ <;> rw [h]
  · exact List.suffix_refl _
  · exact (finishMsg_suf _ _ _ _ _ _ _).trans ((preFinish_suf s).trans (suf_pop s))

theorem pop_length (s : PS) {k : Kind} (h : s.peek.kind = k) (hk : k ≠ .eof) :
    s.pop.toks.length + 1 = s.toks.length :=
  (congrArg List.length (toks_eq_peek_pop s h hk)).symm

/-- behind a token that is consumed, one unit of fuel less is enough for the rest of a list -/
theorem fuel_pop (s : PS) {x : PS} {k : Kind} {f : Nat} (hk : s.peek.kind = k) (hne : k ≠ .eof)
    (hx : x.toks = s.pop.toks) (hf : s.toks.length + 2 ≤ f + 1) : x.toks.length + 2 ≤ f := by
  have := pop_length s hk hne
  rw [hx]
  omega

-- patterns on the analysed argument only, the rest by `fun`: a pattern over all arguments builds a matcher over each
theorem valueTokens_fuel : ∀ (f1 f2 : Nat) (s : PS), s.toks.length < f1 → s.toks.length < f2 →
    valueTokens f1 s = valueTokens f2 s
  | 0, _ => fun _ h _ => by omega
  | _ + 1, 0 => fun _ _ h => by omega
  | k1 + 1, k2 + 1 => fun s h1 h2 => by
    have ih : ∀ {k}, s.peek.kind = k → k ≠ .eof → valueTokens k1 s.pop = valueTokens k2 s.pop := fun hk hne =>
      have := pop_length s hk hne
      valueTokens_fuel k1 k2 s.pop (by omega) (by omega)
    unfold valueTokens
    dsimp only
    split
    · rename_i hk; rw [ih hk nofun]
    · rename_i hk; rw [ih hk nofun]
    · rename_i hk; rw [ih hk nofun]
    · rename_i hk; rw [ih hk nofun]
    · rfl
    · rfl

theorem itemBody_congr (ll1 ll2 : PS → R Tmpl × PS) (s : PS)
    (h : ∀ s' : PS, s'.toks.length + 1 ≤ s.toks.length → ll1 s' = ll2 s') : itemBody ll1 s = itemBody ll2 s := by
  by_cases hty : (s.peek.kind != .itemType) = true
  · unfold itemBody
    dsimp only
    rw [if_pos hty, if_pos hty]
  · have hl := pop_length s (k := .itemType) (by simpa using hty) nofun
    have hs := (sizeDecl_suf s.pop).length_le
    unfold itemBody
    dsimp only
    rw [h (sizeDecl s.pop).2.2.2 (by omega)]

theorem parseItemF_consumes (fuel : Nat) (s : PS) (hl : s.peek.kind = .lab) :
    (parseItemF (fuel + 1) s).2.toks.length < s.toks.length := by
  have hp := pop_length s hl nofun
  unfold parseItemF
  dsimp only
  rw [hl, if_neg (by decide), recoverItem_toks]
  have := (itemBody_suf _ ((parseItem_suf fuel).2 0 []) s.pop).length_le
  omega

theorem parseItem_fuel : ∀ (f1 f2 : Nat),
    (∀ s : PS, s.toks.length < f1 → s.toks.length < f2 → parseItemF f1 s = parseItemF f2 s) ∧
    (∀ (c : Nat) (acc : List GoVal) (s : PS), s.toks.length + 2 ≤ f1 → s.toks.length + 2 ≤ f2 →
      parseItemF.listLoop f1 c acc s = parseItemF.listLoop f2 c acc s)
  | 0, _ => ⟨fun s h => by omega, fun c acc s h => by omega⟩
  | _ + 1, 0 => ⟨fun s _ h => by omega, fun c acc s _ h => by omega⟩
  | k1 + 1, k2 + 1 => by
    have ih := parseItem_fuel k1 k2
    constructor
    · intro s h1 h2
      unfold parseItemF
      dsimp only
      split
      · rfl
      · rename_i hlab
        have hp := pop_length s (k := .lab) (by simpa using hlab) nofun
        rw [itemBody_congr (parseItemF.listLoop k1 0 []) (parseItemF.listLoop k2 0 []) s.pop
          (fun s' hs' => ih.2 0 [] s' (by omega) (by omega))]
    · intro c acc s h1 h2
      unfold parseItemF.listLoop
      dsimp only
      split
      · -- a child: it consumes its `<`
        rename_i hk
        rw [ih.1 s (by omega) (by omega)]
        cases k2 with
        | zero => omega
        | succ j2 =>
          have hc := parseItemF_consumes j2 s hk
          split
          · rename_i hres
            rw [hres] at hc
            exact ih.2 _ _ _ (by simp only at hc; omega) (by simp only at hc; omega)
          · rfl
      · rename_i hk
        split <;> exact ih.2 _ _ _ (fuel_pop s hk nofun rfl h1) (fuel_pop s hk nofun rfl h2)
      · rename_i hk
        split
        · rfl
        · split <;> exact ih.2 _ _ _ (fuel_pop s hk nofun rfl h1) (fuel_pop s hk nofun rfl h2)
      · rfl
      · rfl
      · rfl

theorem parseItemF_fuel (f : Nat) (s : PS) (h : s.toks.length < f) :
    parseItemF f s = parseItemF (s.toks.length + 1) s :=
  (parseItem_fuel f (s.toks.length + 1)).1 s h (by omega)

theorem parseMessage_consumes (s : PS) (h : (parseMessage s).1 ≠ none) :
    (parseMessage s).2.toks.length < s.toks.length := by
  rcases parseMessage_run s with ⟨_, e⟩ | ⟨hk, name, st, fn, wb, dir, e⟩ <;> rw [e] at h ⊢
  · exact absurd rfl h
  · have := ((finishMsg_suf name st fn wb dir (msgItem (preItem s)).1 _).trans (preFinish_suf s)).length_le
    have := pop_length s hk nofun
    omega

theorem parseLoop_fuel : ∀ (f1 f2 : Nat) (s : PS) (acc : List Msg), s.toks.length < f1 → s.toks.length < f2 →
    parseLoop f1 s acc = parseLoop f2 s acc
  | 0, _ => fun _ _ h _ => by omega
  | _ + 1, 0 => fun _ _ _ h => by omega
  | k1 + 1, k2 + 1 => fun s acc h1 h2 => by
    unfold parseLoop
    split
    · rfl
    · have hc := parseMessage_consumes s
      split
      · rfl
      · rfl
      · rename_i hm
        rw [hm] at hc
        have := hc nofun
        exact parseLoop_fuel k1 k2 _ _ (by simp only at this; omega) (by simp only at this; omega)

end Sml
end Secs
