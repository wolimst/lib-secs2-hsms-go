/-
Locality of one lexer step in front of a blank. Where no comment begins, the step on
`c :: p' ++ w :: b` is the step on `c :: p'` (`hdrScan_cut`, `txtScan_cut`). Hence a step that, on
the text cut off by a line feed, emits a token emits the same token when any blank and any further
input follow instead, and the token lies within the text (`hdrScan_at_blank`, `txtScan_at_blank`,
`scanSig_cut`) - provided that a comment which begins there is closed by a line feed (`COK`).
(Skipping in front of a blank: `skipR_cut`, Proofs/LexLayout.)
-/
import SecsModel.Proofs.LexLayout
namespace Secs
namespace Lex

/-- no comment is open at the end of `p`: every `//` in `p` has a line feed behind it (or the
blank that follows `p` is itself a line feed) -/
def COK (w : Nat) (p : Bytes) : Prop := w = 10 ∨ ∀ s, s <:+ p → startsWith [47, 47] s = true → 10 ∈ s

theorem COK.suffix {w : Nat} {p q : Bytes} (h : COK w p) (hq : q <:+ p) : COK w q := by
  rcases h with h | h
  · exact Or.inl h
  · exact Or.inr (fun s hs => h s (List.IsSuffix.trans hs hq))

theorem COK.closed {w : Nat} {x : Bytes} (h : COK w x) (hs : startsWith [47, 47] x = true) : 10 ∈ x ∨ w = 10 :=
  h.symm.imp_left (fun h => h x (List.suffix_refl _) hs)

theorem COK.comment {w : Nat} {c : Nat} {p' : Bytes} (h : COK w (c :: p')) (b : Bytes)
    (hs : startsWith [47, 47] (c :: p' ++ [10]) = true) :
    scanComment (c :: p' ++ w :: b) = scanComment (c :: p' ++ [10]) :=
  (scanComment_closed (c :: p') w b
    (h.closed (by rwa [startsWith_cut (l := [47, 47]) (by decide) (c :: p') (w := 10) (by decide) []] at hs))).1

open Utf8 in
theorem hdrScan_cut (c : Nat) (p' : Bytes) {w : Nat} (hw : isBlank w = true) (b : Bytes)
    (hnc : startsWith [47, 47] (c :: p') = false) : hdrScan (c :: p' ++ w :: b) = hdrScan (c :: p') := by
  have hwp := decodeRune_width_pos c p'
  have hwl := decodeRune_width_le (c :: p')
  have e1 := startsWith_cut (l := [47, 47]) (by decide) (c :: p') hw b
  have e2 := matchSF_cut (c :: p') hw b
  have e3 := matchW_cut (c :: p') hw b
  have e4 := matchDir_cut (c :: p') hw b
  have e5 := decodeRune_blank c p' hw b
  have e6 : scanName (c :: p' ++ w :: b).length ((c :: p').drop (decodeRune (c :: p')).2 ++ w :: b) =
      scanName (c :: p').length ((c :: p').drop (decodeRune (c :: p')).2) := by
    rw [scanName_cut hw b]
    exact scanName_fuel _ _ _ (by simp only [List.length_drop, List.length_cons, List.length_append]; omega)
      (by simp only [List.length_drop, List.length_cons]; omega)
  simp only [List.cons_append] at e1 e2 e3 e4 e5
  simp only [List.cons_append, hdrScan, e1, e2, e3, e4, e5, Nat.max_eq_left hwp, hnc, Bool.false_eq_true, if_false]
  rw [← List.cons_append, List.take_append_of_le_length hwl, List.drop_append_of_le_length hwl, e6]

/-- where no comment begins, the text step has decided before the blank - except that more input
may close a string or a size declaration that the text leaves open (not so a line feed alone) -/
theorem txtScan_cut (ual : List Nat) (c : Nat) (p' : Bytes) {w : Nat} (hw : isBlank w = true) (b : Bytes)
    (hnc : startsWith [47, 47] (c :: p') = false)
    (hE : ∀ e, txtScan ual (c :: p') = .err e → w = 10 ∧ b = []) :
    txtScan ual (c :: p' ++ w :: b) = txtScan ual (c :: p') := by
  have e1 := startsWith_cut (l := [47, 47]) (by decide) (c :: p') hw b
  have e2 := matchEllipsis_cut (c :: p') hw b
  have e3 := matchWord_cut (c :: p') hw b
  have e4 := startsNumber_cut (c :: p') hw b
  have e5 := scanNumber_cut (c :: p') hw b
  have drop : ∀ v : Bytes, v <+: c :: p' → (c :: (p' ++ w :: b)).drop v.length = (c :: p').drop v.length ++ w :: b :=
    fun v hv => List.drop_append_of_le_length (l₁ := c :: p') hv.length_le
  have e6 := nextIsAlnum_cut ual ((c :: p').drop (scanNumber (c :: p')).length) hw b
  rw [← drop _ (scanNumber_prefix _)] at e6
  simp only [List.cons_append] at e1 e2 e3 e4 e5
  -- the tests are those on `c :: p'`, so both sides go down the same branches; most leaves are equal
  have hE' := hE
  simp only [txtScan, List.cons_append, e1, e2, e3, e4, e5, e6, hnc, Bool.false_eq_true, if_false] at hE' ⊢
  cases h2 : matchEllipsis (c :: p') <;> simp only [h2] at hE' ⊢
  cases h3 : matchWord (c :: p') <;> simp only [h3] at hE' ⊢
  case some v => -- a variable name: the index groups behind the word
    rw [drop _ (matchWord_prefix h3), matchIdxs_cut hw b, matchIdxs_fuel _ (c :: p').length] <;>
      simp only [List.length_drop, List.length_cons, List.length_append] <;> omega
  -- the tests on `c`: the same on both sides, and two leaves differ
  refine ite_congr rfl (fun _ => rfl) fun hn => ite_congr rfl (fun _ => rfl) fun h60 => ite_congr rfl (fun _ => rfl) fun h62 =>
    ite_congr rfl (fun _ => rfl) fun h46 => ite_congr rfl (fun h91 => ?_) fun h91 => ite_congr rfl (fun h34 => ?_) fun _ => rfl
  · -- a size declaration: closed, or left open and only a line feed alone may follow (`hE`)
    simp only [hn, h60, h62, h46, h91, Bool.false_eq_true, if_true, if_false] at hE'
    cases hv : scanSize (c :: p') with
    | some raw => rw [← List.cons_append, scanSize_stable hv ((scanSize_prefix hv).trans (List.prefix_append _ _))]
    | none =>
      obtain ⟨rfl, rfl⟩ := hE' .badSize (by rw [hv])
      rw [← List.cons_append, scanSize_lf_none hv]
  · -- a string: likewise
    simp only [hn, h60, h62, h46, h91, h34, Bool.false_eq_true, if_true, if_false] at hE'
    cases hv : scanQuoted (c :: p') with
    | some raw =>
      obtain ⟨hq, hp⟩ := (scanQuoted_eq_some _ _).mp hv
      rw [← List.cons_append, (scanQuoted_eq_some _ _).mpr ⟨hq, hp.trans (List.prefix_append _ _)⟩]
    | none =>
      obtain ⟨rfl, rfl⟩ := hE' .unclosedString (by rw [hv])
      rw [← List.cons_append, scanQuoted_lf_none hv]

/-- **The header step in front of a blank.** On `c :: p'` cut off by a line feed and on `c :: p'`
followed by any blank and any further input it emits the same token, whose text lies within `c :: p'` -
provided that a comment which begins there is the same comment on both. -/
theorem hdrScan_at_blank (c : Nat) (p' : Bytes) {w : Nat} (hw : isBlank w = true) (b : Bytes)
    (hC : startsWith [47, 47] (c :: p') = true → scanComment (c :: p' ++ w :: b) = scanComment (c :: p' ++ [10])) :
    ∃ k v raw, hdrScan (c :: p' ++ [10]) = some (k, v, raw, nextMode .header k) ∧
      hdrScan (c :: p' ++ w :: b) = some (k, v, raw, nextMode .header k) ∧
      raw ≠ [] ∧ raw <+: c :: p' ∧ k ≠ .eof ∧ k ≠ .error := by
  cases hs : startsWith [47, 47] (c :: p') with
  | true =>
    have h10 : startsWith [47, 47] (c :: p' ++ [10]) = true := by rw [startsWith_cut (by decide) _ (by decide), hs]
    have hwb : startsWith [47, 47] (c :: p' ++ w :: b) = true := by rw [startsWith_cut (by decide) _ hw, hs]
    exact ⟨.comment, _, _, hdrScan_comment h10, by rw [hdrScan_comment hwb, hC hs]; rfl, scanComment_ne_nil _ h10,
      (scanComment_closed (c :: p') 10 [] (Or.inr rfl)).2, nofun, nofun⟩
  | false =>
    cases hh : hdrScan (c :: p') with
    | none => exact absurd hh (hdrScan_cons_ne_none c p')
    | some q =>
      obtain ⟨k, v, raw, m⟩ := q
      obtain ⟨h1, h2, rfl, h4, h5⟩ := hdrScan_tok hh
      exact ⟨k, v, raw, by rw [hdrScan_cut c p' (by decide) [] hs, hh], by rw [hdrScan_cut c p' hw b hs, hh], h4, h5, h1, h2⟩

/-- **The text step in front of a blank**: the same for a step that emits a token -/
theorem txtScan_at_blank (ual : List Nat) (c : Nat) (p' : Bytes) {w : Nat} (hw : isBlank w = true) (b : Bytes)
    (hC : startsWith [47, 47] (c :: p') = true → scanComment (c :: p' ++ w :: b) = scanComment (c :: p' ++ [10]))
    (k : Kind) (v raw : Bytes) (m : Mode) (ht : txtScan ual (c :: p' ++ [10]) = .tok k v raw m) :
    txtScan ual (c :: p' ++ w :: b) = .tok k v raw m ∧
      raw ≠ [] ∧ raw <+: c :: p' ∧ m = nextMode .text k ∧ k ≠ .eof ∧ k ≠ .error := by
  cases hs : startsWith [47, 47] (c :: p') with
  | true =>
    have h10 : startsWith [47, 47] (c :: p' ++ [10]) = true := by rw [startsWith_cut (by decide) _ (by decide), hs]
    have hwb : startsWith [47, 47] (c :: p' ++ w :: b) = true := by rw [startsWith_cut (by decide) _ hw, hs]
    rw [txtScan_comment ual h10] at ht
    cases ht
    exact ⟨by rw [txtScan_comment ual hwb, hC hs], scanComment_ne_nil _ h10,
      (scanComment_closed (c :: p') 10 [] (Or.inr rfl)).2, rfl, nofun, nofun⟩
  | false =>
    rw [txtScan_cut ual c p' (w := 10) (by decide) [] hs (fun _ _ => ⟨rfl, rfl⟩)] at ht
    obtain ⟨h1, h2, _, _, h3, h4, h5⟩ := txtScan_tok ht
    exact ⟨by rw [txtScan_cut ual c p' hw b hs (fun e he => by rw [ht] at he; cases he), ht], h4, h5, h3, h1, h2⟩

/-- **One step in front of a blank**, in either mode: the token, and the rest `q` of the text that
is left -/
theorem scanSig_cut (ual : List Nat) (m : Mode) (c : Nat) (p' : Bytes) {w : Nat} (hw : isBlank w = true) (b : Bytes)
    (hC : COK w (c :: p')) (t : Tok) (m' : Mode) (r : Bytes)
    (h : scanSig ual m (c :: p' ++ [10]) = (t, some (m', r))) :
    ∃ q, q <:+ c :: p' ∧ q.length < (c :: p').length ∧ r = q ++ [10] ∧
      scanSig ual m (c :: p' ++ w :: b) = (t, some (m', q ++ w :: b)) ∧
      m' = nextMode m t.kind ∧ t.kind ≠ .eof ∧ t.kind ≠ .error := by
  have hC' := fun hs => (scanComment_closed (c :: p') w b (hC.closed hs)).1
  have fin : ∀ (k : Kind) (v raw : Bytes), raw ≠ [] → raw <+: c :: p' →
      (t, some (m', r)) = (⟨k, v, 0, 0, none⟩, some (nextMode m k, (c :: p' ++ [10]).drop raw.length)) →
      ∃ q, q <:+ c :: p' ∧ q.length < (c :: p').length ∧ r = q ++ [10] ∧
        (⟨k, v, 0, 0, none⟩, some (nextMode m k, (c :: p' ++ w :: b).drop raw.length)) = (t, some (m', q ++ w :: b)) ∧
        m' = nextMode m t.kind := by
    intro k v raw hne hp e
    cases e
    refine ⟨(c :: p').drop raw.length, List.drop_suffix _ _, ?_, List.drop_append_of_le_length hp.length_le, ?_, rfl⟩
    · have := List.length_pos_iff.mpr hne
      simp only [List.length_drop, List.length_cons]
      omega
    · rw [List.drop_append_of_le_length hp.length_le]
  cases m with
  | header =>
    obtain ⟨k, v, raw, h10, hwb, hne, hp, hk1, hk2⟩ := hdrScan_at_blank c p' hw b hC'
    simp only [scanSig, h10] at h
    obtain ⟨q, a1, a2, a3, a4, a5⟩ := fin k v raw hne hp h.symm
    exact ⟨q, a1, a2, a3, by simp only [scanSig, hwb, a4], a5, by cases h; exact ⟨hk1, hk2⟩⟩
  | text =>
    cases ht : txtScan ual (c :: p' ++ [10]) with
    | eof => simp only [scanSig, ht] at h; cases h
    | err e => simp only [scanSig, ht] at h; cases h
    | tok k v raw m1 =>
      obtain ⟨hwb, hne, hp, rfl, hk1, hk2⟩ := txtScan_at_blank ual c p' hw b hC' k v raw m1 ht
      simp only [scanSig, ht] at h
      obtain ⟨q, a1, a2, a3, a4, a5⟩ := fin k v raw hne hp h.symm
      exact ⟨q, a1, a2, a3, by simp only [scanSig, hwb, a4], a5, by cases h; exact ⟨hk1, hk2⟩⟩

end Lex
end Secs
