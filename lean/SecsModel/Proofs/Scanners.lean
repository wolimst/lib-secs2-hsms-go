/-
The scanners of the lexer, one by one: what a scanner returns is not empty (`*_ne_nil`) and a
prefix of the input (`*_prefix`), and a scanner has decided before it could look at a blank or
past it (`*_cut`): for a matcher, `f (pre ++ w :: b) = f pre` for every blank `w`; for a stage that
also returns what it leaves (`spanB`, `numSign`, `numPre`, `numFrac`), the same result with
`w :: b` behind what is left. Strings, size declarations and comments take blanks in; for them:
once closed, what follows is not looked at (for a size declaration `*_cut` is about the closing
`]`, not about a blank).
-/
import SecsModel.Model.Lexer
import SecsModel.Proofs.Utf8
namespace Secs
namespace Lex

theorem blank_cases {w : Nat} (h : isBlank w = true) : w = 32 ∨ w = 9 ∨ w = 13 ∨ w = 10 := by
  simp [isBlank] at h
  omega

theorem isBlank_lt {w : Nat} (h : isBlank w = true) : w < 128 ∧ Utf8.isSpace w = true := by
  rcases blank_cases h with rfl | rfl | rfl | rfl <;> decide

/-- the first rune is decided before a blank (a blank continues no rune) -/
theorem decodeRune_blank (c : Nat) (r : Bytes) {w : Nat} (hw : isBlank w = true) (b : Bytes) :
    Utf8.decodeRune (c :: (r ++ w :: b)) = Utf8.decodeRune (c :: r) :=
  Utf8.decodeRune_cut c r w (by rcases blank_cases hw with rfl | rfl | rfl | rfl <;> rfl) b

def NoBlank (p : Nat → Bool) : Prop := ∀ w, isBlank w = true → p w = false

theorem NoBlank.of_dec {p : Nat → Bool} (h : p 32 = false ∧ p 9 = false ∧ p 13 = false ∧ p 10 = false) :
    NoBlank p := by
  intro w hw
  rcases blank_cases hw with rfl | rfl | rfl | rfl
  · exact h.1
  · exact h.2.1
  · exact h.2.2.1
  · exact h.2.2.2

theorem noBlank_digit : NoBlank isDigitB := .of_dec (by decide)
theorem noBlank_word : NoBlank isWordB := .of_dec (by decide)
theorem noBlank_identStart : NoBlank isIdentStartB := .of_dec (by decide)

theorem NoBlank.not_blank {p : Nat → Bool} (hp : NoBlank p) {c : Nat} (hc : p c = true) : isBlank c = false := by
  cases hb : isBlank c with
  | false => rfl
  | true => rw [hp c hb] at hc; cases hc

theorem spanB_nil (p : Nat → Bool) : spanB p [] = ([], []) := rfl

theorem spanB_cons_true (p : Nat → Bool) (b : Nat) (r : Bytes) (h : p b = true) :
    spanB p (b :: r) = (b :: (spanB p r).1, (spanB p r).2) := by
  simp [spanB, h]

theorem spanB_spec (p : Nat → Bool) : ∀ l : Bytes, (spanB p l).1 ++ (spanB p l).2 = l ∧ (∀ x ∈ (spanB p l).1, p x = true) ∧
    (∀ b r, (spanB p l).2 = b :: r → p b = false) := by
  intro l
  induction l with
  | nil => simp [spanB]
  | cons a r ih =>
    by_cases ha : p a = true
    · simp only [spanB, ha, if_true]
      refine ⟨by simp [ih.1], ?_, ih.2.2⟩
      intro x hx
      rcases List.mem_cons.mp hx with rfl | hx
      · exact ha
      · exact ih.2.1 x hx
    · simp [spanB, ha]

theorem spanB_prefix (p : Nat → Bool) (s : Bytes) : (spanB p s).1 <+: s :=
  ⟨(spanB p s).2, (spanB_spec p s).1⟩

theorem spanB_stop (p : Nat → Bool) (c : Bytes) (b : Nat) (r : Bytes)
    (hc : ∀ x ∈ c, p x = true) (hb : p b = false) : spanB p (c ++ b :: r) = (c, b :: r) := by
  induction c with
  | nil => simp [spanB, hb]
  | cons x xs ih =>
    have hx := hc x (by simp)
    have := ih (fun y hy => hc y (by simp [hy]))
    simp [spanB, hx, this]

theorem spanB_cut (p : Nat → Bool) {w : Nat} (hw : p w = false) (b : Bytes) : ∀ pre : Bytes,
    spanB p (pre ++ w :: b) = ((spanB p pre).1, (spanB p pre).2 ++ w :: b)
  | [] => by simp [spanB, hw]
  | c :: pre => by
    by_cases hc : p c = true <;> simp [spanB, hc, spanB_cut p hw b pre]

theorem prefix_cut {l : Bytes} {w : Nat} (hw : w ∉ l) (b : Bytes) : ∀ pre : Bytes, l <+: pre ++ w :: b ↔ l <+: pre := by
  induction l with
  | nil => simp
  | cons a l ih =>
    intro pre
    have ha : a ≠ w := fun e => hw (e ▸ List.mem_cons_self)
    cases pre with
    | nil => simp [List.cons_prefix_cons, ha]
    | cons c pre => simp [List.cons_prefix_cons, ih (fun h => hw (List.mem_cons_of_mem _ h))]

theorem blank_not_mem {l : Bytes} (hl : ∀ x ∈ l, isBlank x = false) {w : Nat} (hw : isBlank w = true) : w ∉ l :=
  fun h => by rw [hl w h] at hw; cases hw

/-- the form in which `prefix_cut` meets a pattern match that failed on `pre` -/
theorem cut_absurd {l : Bytes} (hl : ∀ x ∈ l, isBlank x = false) {w : Nat} (hw : isBlank w = true) {pre b t : Bytes}
    (h : pre ++ w :: b = l ++ t) (hn : ∀ t', pre = l ++ t' → False) : False :=
  let ⟨t', e⟩ := (prefix_cut (blank_not_mem hl hw) b pre).mp ⟨t, h.symm⟩
  hn t' e.symm

/-- a matcher without lookahead: what it returns is free of blanks and any text that begins with
it gives the same answer. A blank then ends the match. -/
theorem cut_of_stable {f : Bytes → Option Bytes} (hp : ∀ {s v}, f s = some v → v <+: s)
    (hs : ∀ {s v}, f s = some v → (∀ x ∈ v, isBlank x = false) ∧ ∀ s', v <+: s' → f s' = some v)
    (pre : Bytes) {w : Nat} (hw : isBlank w = true) (b : Bytes) : f (pre ++ w :: b) = f pre := by
  cases h1 : f pre with
  | some v => exact (hs h1).2 _ ((hp h1).trans (List.prefix_append _ _))
  | none =>
    cases h2 : f (pre ++ w :: b) with
    | none => rfl
    | some v =>
      have := (hs h2).2 pre ((prefix_cut (blank_not_mem (hs h2).1 hw) b pre).mp (hp h2))
      rw [h1] at this; cases this

theorem matchSF_ne_nil (s v : Bytes) (h : matchSF s = some v) : v ≠ [] := by
  revert h
  fun_cases matchSF s <;> intro h <;> cases h <;> simp

theorem matchSF_prefix {s v : Bytes} (h : matchSF s = some v) : v <+: s := by
  revert h
  fun_cases matchSF s <;> intro h <;> cases h
  rename_i f r _ d1 _ f1 r1 _ d2 snd h2 _ h1
  have e1 := (spanB_spec isDigitB r).1
  have e2 := (spanB_spec isDigitB r1).1
  rw [h1] at e1; rw [h2] at e2
  exact ⟨snd, by simp [← e1, ← e2]⟩

theorem matchSF_cut (pre : Bytes) {w : Nat} (hw : isBlank w = true) (b : Bytes) :
    matchSF (pre ++ w :: b) = matchSF pre := by
  have hd := noBlank_digit w hw
  have hS : (w == 83 || w == 115) = false := NoBlank.of_dec (p := fun c => c == 83 || c == 115) (by decide) w hw
  have hF : (w == 70 || w == 102) = false := NoBlank.of_dec (p := fun c => c == 70 || c == 102) (by decide) w hw
  cases pre with
  | nil => simp [matchSF, hS]
  | cons c r =>
    simp only [List.cons_append, matchSF, spanB_cut isDigitB hd b r]
    cases (spanB isDigitB r).2 with
    | nil => simp [hF]
    | cons f r2 => simp only [List.cons_append, spanB_cut isDigitB hd b r2]

theorem matchW_ne_nil (s v : Bytes) (h : matchW s = some v) : v ≠ [] := by
  revert h
  fun_cases matchW s <;> intro h <;> cases h <;> simp

theorem matchW_prefix {s v : Bytes} (h : matchW s = some v) : v <+: s := by
  revert h
  fun_cases matchW s <;> intro h <;> cases h <;> exact ⟨_, rfl⟩

theorem matchW_cut (pre : Bytes) {w : Nat} (hw : isBlank w = true) (b : Bytes) :
    matchW (pre ++ w :: b) = matchW pre := by
  refine cut_of_stable matchW_prefix (fun {s v} h => ?_) pre hw b
  revert h
  fun_cases matchW s <;> intro h <;> cases h <;> exact ⟨by decide, fun s' ⟨t, e⟩ => e ▸ rfl⟩

theorem matchDir_ne_nil (s v : Bytes) (h : matchDir s = some v) : v ≠ [] := by
  revert h
  fun_cases matchDir s <;> intro h <;> cases h <;> simp

theorem matchDir_prefix {s v : Bytes} (h : matchDir s = some v) : v <+: s := by
  revert h
  fun_cases matchDir s <;> intro h <;> cases h <;> exact ⟨_, rfl⟩

theorem matchDir_cut (pre : Bytes) {w : Nat} (hw : isBlank w = true) (b : Bytes) :
    matchDir (pre ++ w :: b) = matchDir pre := by
  refine cut_of_stable matchDir_prefix (fun {s v} h => ?_) pre hw b
  have nbH : NoBlank (fun c => c == 72 || c == 104) := .of_dec (by decide)
  have nbE : NoBlank (fun c => c == 69 || c == 101) := .of_dec (by decide)
  revert h
  fun_cases matchDir s <;> intro h <;> cases h
  -- the three literals `H->E`, `H<->E`, `H<-E` (either letter case)
  case case1 f hf e t he | case3 f hf e t he =>
    refine ⟨by simp only [List.forall_mem_cons, nbH.not_blank hf, nbE.not_blank he]; decide, fun s' ⟨t', e'⟩ => ?_⟩
    subst e'
    simp only [matchDir, List.cons_append, List.nil_append, hf, he, if_true]
  case case5 f hf e t hne he =>
    refine ⟨by simp only [List.forall_mem_cons, nbH.not_blank hf, nbE.not_blank he]; decide, fun s' ⟨t', e'⟩ => ?_⟩
    subst e'
    -- the letter as a numeral: the third alternative is reached only past the test for `>` of the second
    simp only [Bool.or_eq_true, beq_iff_eq] at he
    rcases he with rfl | rfl <;> simp [matchDir, hf]

theorem startsWith_iff (l s : Bytes) : startsWith l s = true ↔ l <+: s := by
  simp only [startsWith, beq_iff_eq, List.prefix_iff_eq_take]
  exact eq_comm

theorem startsWith_cut {l : Bytes} (hl : ∀ x ∈ l, isBlank x = false) (pre : Bytes) {w : Nat} (hw : isBlank w = true)
    (b : Bytes) : startsWith l (pre ++ w :: b) = startsWith l pre := by
  rw [Bool.eq_iff_iff, startsWith_iff, startsWith_iff, prefix_cut (blank_not_mem hl hw)]

open Utf8 in
-- patterns on the analysed argument only, the rest by `fun`: a pattern over all arguments builds a matcher over each
theorem scanName_fuel : ∀ (f1 f2 : Nat) (s : Bytes), s.length ≤ f1 → s.length ≤ f2 → scanName f1 s = scanName f2 s
  | f1, f2, [] => fun _ _ => by cases f1 <;> cases f2 <;> rfl
  | 0, _, _ :: _ => fun h _ => by simp at h
  | _, 0, _ :: _ => fun _ h => by simp at h
  | f1 + 1, f2 + 1, c :: r => fun h1 h2 => by
    have hw := decodeRune_width_pos c r
    unfold scanName
    dsimp only
    split
    · rfl
    · split
      · rfl
      · rw [scanName_fuel f1 f2] <;> simp only [List.length_drop, List.length_cons] at h1 h2 ⊢ <;> omega

theorem scanName_prefix : ∀ (fuel : Nat) (s : Bytes), scanName fuel s <+: s
  | 0, _ => List.nil_prefix
  | _ + 1, [] => List.nil_prefix
  | fuel + 1, c :: r => by
    unfold scanName
    dsimp only
    split
    · simp
    · split
      · simp
      · obtain ⟨t, ht⟩ := scanName_prefix fuel ((c :: r).drop (Utf8.decodeRune (c :: r)).2)
        exact ⟨t, by rw [List.append_assoc, ht, List.take_append_drop]⟩

open Utf8 in
theorem scanName_cut {w : Nat} (hw : isBlank w = true) (b : Bytes) : ∀ (fuel : Nat) (pre : Bytes),
    scanName fuel (pre ++ w :: b) = scanName fuel pre
  | 0, pre => rfl
  | fuel + 1, [] => by
    obtain ⟨h1, h2⟩ := isBlank_lt hw
    unfold scanName
    simp [decodeRune, h1, h2]
  | fuel + 1, c :: r => by
    have hwl := decodeRune_width_le (c :: r)
    have e := decodeRune_blank c r hw b
    have e2 := startsWith_cut (l := [47, 47]) (by decide) (c :: r) hw b
    simp only [List.cons_append] at e2
    unfold scanName
    simp only [List.cons_append, e, e2]
    split
    · rfl
    · split
      · rfl
      · rw [← List.cons_append, List.take_append_of_le_length hwl, List.drop_append_of_le_length hwl,
          scanName_cut hw b fuel _]

theorem matchIdx_ne_nil {s v : Bytes} (h : matchIdx s = some v) : v ≠ [] := by
  revert h
  fun_cases matchIdx s <;> intro h <;> cases h <;> simp

theorem matchIdx_prefix {s v : Bytes} (h : matchIdx s = some v) : v <+: s := by
  revert h
  fun_cases matchIdx s <;> intro h <;> cases h
  rename_i r d _ tail h1
  have e1 := (spanB_spec isDigitB r).1
  rw [h1] at e1
  exact ⟨tail, by simp [← e1]⟩

theorem matchIdx_cut (pre : Bytes) {w : Nat} (hw : isBlank w = true) (b : Bytes) :
    matchIdx (pre ++ w :: b) = matchIdx pre := by
  have h91 : w ≠ 91 := by rcases blank_cases hw with rfl | rfl | rfl | rfl <;> decide
  have h93 : w ≠ 93 := by rcases blank_cases hw with rfl | rfl | rfl | rfl <;> decide
  cases pre with
  | nil => simp [matchIdx, h91]
  | cons c r =>
    by_cases hc : c = 91
    · subst hc
      simp only [List.cons_append, matchIdx, spanB_cut isDigitB (noBlank_digit w hw) b r]
      cases (spanB isDigitB r).2 with
      | nil => simp [h93]
      | cons f r2 => by_cases hf : f = 93 <;> simp [hf]
    · simp [matchIdx, hc]

theorem matchIdxs_fuel : ∀ (f1 f2 : Nat) (s : Bytes), s.length ≤ f1 → s.length ≤ f2 → matchIdxs f1 s = matchIdxs f2 s
  | f1, f2, [] => fun _ _ => by cases f1 <;> cases f2 <;> rfl
  | 0, _, _ :: _ => fun h _ => by simp at h
  | _, 0, _ :: _ => fun _ h => by simp at h
  | f1 + 1, f2 + 1, c :: r => fun h1 h2 => by
    simp only [matchIdxs]
    cases hg : matchIdx (c :: r) with
    | none => rfl
    | some g =>
      have := List.length_pos_iff.mpr (matchIdx_ne_nil hg)
      simp only
      rw [matchIdxs_fuel f1 f2] <;> simp only [List.length_drop, List.length_cons] at h1 h2 ⊢ <;> omega

theorem matchIdxs_prefix : ∀ (fuel : Nat) (s : Bytes), matchIdxs fuel s <+: s
  | 0 => fun _ => by simp [matchIdxs]
  | fuel + 1 => fun s => by
    simp only [matchIdxs]
    cases hg : matchIdx s with
    | none => simp
    | some g =>
      obtain ⟨t, ht⟩ := matchIdx_prefix hg
      obtain ⟨t', ht'⟩ := matchIdxs_prefix fuel (s.drop g.length)
      refine ⟨t', ?_⟩
      rw [← ht] at ht' ⊢
      simpa using ht'

theorem matchIdxs_cut {w : Nat} (hw : isBlank w = true) (b : Bytes) : ∀ (fuel : Nat) (pre : Bytes),
    matchIdxs fuel (pre ++ w :: b) = matchIdxs fuel pre
  | 0 => fun _ => rfl
  | fuel + 1 => fun pre => by
    simp only [matchIdxs, matchIdx_cut pre hw b]
    cases hg : matchIdx pre with
    | none => rfl
    | some g =>
      simp only
      rw [List.drop_append_of_le_length (matchIdx_prefix hg).length_le, matchIdxs_cut hw b fuel]

theorem matchEllipsis_ne_nil (s v : Bytes) (h : matchEllipsis s = some v) : v ≠ [] := by
  revert h
  fun_cases matchEllipsis s <;> intro h <;> cases h <;> simp

theorem matchEllipsis_prefix {s v : Bytes} (h : matchEllipsis s = some v) : v <+: s := by
  revert h
  fun_cases matchEllipsis s <;> intro h <;> cases h
  rename_i r
  cases hg : matchIdx r with
  | none => exact ⟨r, rfl⟩
  | some g =>
    obtain ⟨t, ht⟩ := matchIdx_prefix hg
    exact ⟨t, by simp [← ht]⟩

theorem matchEllipsis_cut (pre : Bytes) {w : Nat} (hw : isBlank w = true) (b : Bytes) :
    matchEllipsis (pre ++ w :: b) = matchEllipsis pre := by
  fun_cases matchEllipsis pre
  case case1 r => simp [matchEllipsis, matchIdx_cut r hw b]
  case case2 h =>
    generalize hs : pre ++ w :: b = s
    fun_cases matchEllipsis s
    case case1 t => exact (cut_absurd (l := [46, 46, 46]) (by decide) hw hs h).elim
    case case2 => rfl

theorem matchWord_ne_nil (s v : Bytes) (h : matchWord s = some v) : v ≠ [] := by
  revert h
  fun_cases matchWord s <;> intro h <;> cases h <;> simp

theorem matchWord_prefix {s v : Bytes} (h : matchWord s = some v) : v <+: s := by
  revert h
  fun_cases matchWord s <;> intro h <;> cases h
  exact List.cons_prefix_cons.mpr ⟨rfl, spanB_prefix _ _⟩

theorem matchWord_cut (pre : Bytes) {w : Nat} (hw : isBlank w = true) (b : Bytes) :
    matchWord (pre ++ w :: b) = matchWord pre := by
  cases pre with
  | nil => simp [matchWord, noBlank_identStart w hw]
  | cons c r => simp [matchWord, spanB_cut isWordB (noBlank_word w hw) b r]

theorem startsNumber_cut (pre : Bytes) {w : Nat} (hw : isBlank w = true) (b : Bytes) :
    startsNumber (pre ++ w :: b) = startsNumber pre := by
  have hd := noBlank_digit w hw
  rcases pre with _ | ⟨c, _ | ⟨c1, r⟩⟩
  · rcases blank_cases hw with rfl | rfl | rfl | rfl <;> rfl
  · simp [startsNumber, hd]
  · rfl

theorem nextIsAlnum_cut (ual : List Nat) (pre : Bytes) {w : Nat} (hw : isBlank w = true) (b : Bytes) :
    nextIsAlnum ual (pre ++ w :: b) = nextIsAlnum ual pre := by
  have h128 := (isBlank_lt hw).1
  cases pre with
  | nil => simp [nextIsAlnum, h128, noBlank_word w hw]
  | cons c r =>
    simp only [List.cons_append, nextIsAlnum, decodeRune_blank c r hw b]

/-! ### numbers: the scanner in stages (sign, base prefix, digits, fraction, exponent) -/

def numSign (s : Bytes) : Bytes × Bytes :=
  match s with
  | 43 :: r => ([43], r)
  | 45 :: r => ([45], r)
  | _ => ([], s)

def isBinB (b : Nat) : Bool := b == 48 || b == 49
def isOctB (b : Nat) : Bool := 48 ≤ b && b ≤ 55

def numPre (s1 : Bytes) : Bytes × (Nat → Bool) × Bytes :=
  match s1 with
  | 48 :: r =>
    match r with
    | 120 :: r' => ([48, 120], isHexB, r')
    | 88 :: r' => ([48, 88], isHexB, r')
    | 98 :: r' => ([48, 98], isBinB, r')
    | 66 :: r' => ([48, 66], isBinB, r')
    | 111 :: r' => ([48, 111], isOctB, r')
    | 79 :: r' => ([48, 79], isOctB, r')
    | _ => ([48], isDigitB, r)
  | _ => ([], isDigitB, s1)

def numFrac (dp : Nat → Bool) (s3 : Bytes) : Bytes × Bytes :=
  match s3 with
  | 46 :: r => (46 :: (spanB dp r).1, (spanB dp r).2)
  | _ => ([], s3)

def numExp (s4 : Bytes) : Bytes :=
  match s4 with
  | e :: r => if e == 101 || e == 69 then e :: (numSign r).1 ++ (spanB isDigitB (numSign r).2).1 else []
  | [] => []

theorem scanNumber_staged (s : Bytes) :
    scanNumber s =
      (numSign s).1 ++ (numPre (numSign s).2).1 ++ (spanB (numPre (numSign s).2).2.1 (numPre (numSign s).2).2.2).1 ++
        (numFrac (numPre (numSign s).2).2.1 (spanB (numPre (numSign s).2).2.1 (numPre (numSign s).2).2.2).2).1 ++
        numExp (numFrac (numPre (numSign s).2).2.1 (spanB (numPre (numSign s).2).2.1 (numPre (numSign s).2).2.2).2).2 := by
  unfold scanNumber numSign numPre numFrac numExp numSign
  rfl

theorem numSign_split (s : Bytes) : (numSign s).1 ++ (numSign s).2 = s := by
  fun_cases numSign s <;> rfl

theorem numSign_cut (pre : Bytes) {w : Nat} (hw : isBlank w = true) (b : Bytes) :
    numSign (pre ++ w :: b) = ((numSign pre).1, (numSign pre).2 ++ w :: b) := by
  fun_cases numSign pre
  case case3 h1 h2 =>
    generalize hs : pre ++ w :: b = s
    fun_cases numSign s
    case case1 t => exact (cut_absurd (l := [43]) (by decide) hw hs h1).elim
    case case2 t => exact (cut_absurd (l := [45]) (by decide) hw hs h2).elim
    case case3 => rfl
  all_goals rfl

theorem numPre_split (s : Bytes) : (numPre s).1 ++ (numPre s).2.2 = s := by
  fun_cases numPre s <;> rfl

theorem numPre_class (s : Bytes) : NoBlank (numPre s).2.1 := by
  fun_cases numPre s <;> exact .of_dec ⟨rfl, rfl, rfl, rfl⟩

theorem numPre_cut (pre : Bytes) {w : Nat} (hw : isBlank w = true) (b : Bytes) :
    numPre (pre ++ w :: b) = ((numPre pre).1, (numPre pre).2.1, (numPre pre).2.2 ++ w :: b) := by
  fun_cases numPre pre
  case case7 r h1 h2 h3 h4 h5 h6 => -- `0` and no base letter behind it
    generalize hs : 48 :: r ++ w :: b = s
    fun_cases numPre s
    case case7 => cases hs; rfl
    case case8 h => exact (h _ hs.symm).elim
    all_goals
      exfalso
      injection hs with _ hs
    · exact cut_absurd (l := [120]) (by decide) hw hs h1
    · exact cut_absurd (l := [88]) (by decide) hw hs h2
    · exact cut_absurd (l := [98]) (by decide) hw hs h3
    · exact cut_absurd (l := [66]) (by decide) hw hs h4
    · exact cut_absurd (l := [111]) (by decide) hw hs h5
    · exact cut_absurd (l := [79]) (by decide) hw hs h6
  case case8 h => -- no leading `0`
    generalize hs : pre ++ w :: b = s
    fun_cases numPre s
    case case8 => rfl
    all_goals exact (cut_absurd (l := [48]) (by decide) hw hs h).elim
  all_goals rfl

theorem numFrac_split (dp : Nat → Bool) (s : Bytes) : (numFrac dp s).1 ++ (numFrac dp s).2 = s := by
  fun_cases numFrac dp s
  · exact congrArg (46 :: ·) (spanB_spec dp _).1
  · rfl

theorem numFrac_cut {dp : Nat → Bool} (hdp : NoBlank dp) (pre : Bytes) {w : Nat} (hw : isBlank w = true) (b : Bytes) :
    numFrac dp (pre ++ w :: b) = ((numFrac dp pre).1, (numFrac dp pre).2 ++ w :: b) := by
  fun_cases numFrac dp pre
  case case1 r => simp [numFrac, spanB_cut dp (hdp w hw) b r]
  case case2 h =>
    generalize hs : pre ++ w :: b = s
    fun_cases numFrac dp s
    case case1 t => exact (cut_absurd (l := [46]) (by decide) hw hs h).elim
    case case2 => rfl

theorem numExp_prefix (s : Bytes) : numExp s <+: s := by
  fun_cases numExp s
  · rename_i e r _
    obtain ⟨t, ht⟩ := spanB_prefix isDigitB (numSign r).2
    refine List.cons_prefix_cons.mpr ⟨rfl, t, ?_⟩
    show (numSign r).1 ++ (spanB isDigitB (numSign r).2).1 ++ t = r
    rw [List.append_assoc, ht, numSign_split]
  · simp
  · simp

theorem numExp_cut (pre : Bytes) {w : Nat} (hw : isBlank w = true) (b : Bytes) :
    numExp (pre ++ w :: b) = numExp pre := by
  cases pre with
  | nil =>
    have : (w == 101 || w == 69) = false := NoBlank.of_dec (p := fun c => c == 101 || c == 69) (by decide) w hw
    simp [numExp, this]
  | cons e r => simp [numExp, numSign_cut r hw b, spanB_cut isDigitB (noBlank_digit w hw) b]

theorem scanNumber_prefix (s : Bytes) : scanNumber s <+: s := by
  rw [scanNumber_staged]
  obtain ⟨t, ht⟩ := numExp_prefix (numFrac (numPre (numSign s).2).2.1 (spanB (numPre (numSign s).2).2.1 (numPre (numSign s).2).2.2).2).2
  refine ⟨t, ?_⟩
  simp only [List.append_assoc]
  rw [ht, numFrac_split, (spanB_spec _ _).1, numPre_split, numSign_split]

theorem scanNumber_cut (pre : Bytes) {w : Nat} (hw : isBlank w = true) (b : Bytes) :
    scanNumber (pre ++ w :: b) = scanNumber pre := by
  have hc := numPre_class (numSign pre).2
  simp only [scanNumber_staged, numSign_cut pre hw b, numPre_cut _ hw b, spanB_cut _ (hc w hw) b, numFrac_cut hc _ hw b,
    numExp_cut _ hw b]

theorem scanNumber_ne_nil (s : Bytes) (h : startsNumber s = true) : scanNumber s ≠ [] := by
  rw [scanNumber_staged]
  match s, h with
  | c :: r, h =>
    simp only [startsNumber, Bool.or_eq_true, Bool.and_eq_true, beq_iff_eq] at h
    rcases h with ((rfl | rfl) | hd) | ⟨rfl, _⟩
    · simp [numSign]
    · simp [numSign]
    · have e1 : numSign (c :: r) = ([], c :: r) := by
        generalize hu : c :: r = u
        fun_cases numSign u <;> first | rfl | (cases hu; exact absurd hd (by decide))
      rw [e1]
      by_cases h48 : c = 48
      · subst h48
        have : (numPre (48 :: r)).1 ≠ [] := by
          generalize hu : 48 :: r = u
          fun_cases numPre u
          case case8 h => exact (h r hu.symm).elim
          all_goals simp
        simp [this]
      · have e2 : numPre (c :: r) = ([], isDigitB, c :: r) := by
          generalize hu : c :: r = u
          fun_cases numPre u <;> first | rfl | (cases hu; exact absurd rfl h48)
        simp [e2, spanB, hd]
    · simp [numSign, numPre, spanB, numFrac, isDigitB]

theorem trimRight_split (f : Nat → Bool) (x : Bytes) :
    ∃ t, x = trimRight f x ++ t ∧ ∀ b ∈ t, f b = true := by
  refine ⟨(x.reverse.takeWhile f).reverse, ?_, ?_⟩
  · unfold trimRight
    rw [← List.reverse_append, List.takeWhile_append_dropWhile, List.reverse_reverse]
  · intro b hb
    rw [List.mem_reverse] at hb
    exact List.all_eq_true.mp List.all_takeWhile b hb

theorem trimRight_cons_ne_nil (pr : Nat → Bool) (a : Nat) (r : Bytes) (ha : pr a = false) :
    trimRight pr (a :: r) ≠ [] := by
  obtain ⟨t, ht, htb⟩ := trimRight_split pr (a :: r)
  intro h
  rw [h, List.nil_append] at ht
  rw [htb a (ht ▸ List.mem_cons_self)] at ha
  cases ha

theorem scanComment_ne_nil (s : Bytes) (h : startsWith [47, 47] s = true) : (scanComment s).1 ≠ [] := by
  obtain ⟨t, rfl⟩ := (startsWith_iff _ _).mp h
  simp only [scanComment, List.cons_append, List.nil_append, spanB, show (47 != 10) = true from rfl, if_true]
  split
  · simp
  · exact trimRight_cons_ne_nil _ 47 _ (by decide)

theorem scanComment_prefix (s : Bytes) : (scanComment s).1 <+: s := by
  unfold scanComment
  have hb := spanB_prefix (· != 10) s
  generalize spanB (fun x => x != 10) s = q at hb ⊢
  obtain ⟨body, r⟩ := q
  obtain ⟨t, ht, _⟩ := trimRight_split (fun b => b == 32 || b == 9 || b == 13) body
  cases r with
  | nil => exact hb
  | cons d r' => exact List.IsPrefix.trans ⟨t, ht.symm⟩ hb

theorem scanComment_at (a rest : Bytes) (ha : ∀ x ∈ a, x ≠ 10) :
    scanComment (a ++ 10 :: rest) = (trimRight (fun b => b == 32 || b == 9 || b == 13) a, false) := by
  unfold scanComment
  rw [spanB_stop (· != 10) a 10 rest (by intro x hx; simpa using ha x hx) (by decide)]

/-- a comment closed by a line feed inside `p`, or by the line feed behind `p`, is the same comment
whatever follows, and lies within `p` -/
theorem scanComment_closed (p : Bytes) (w : Nat) (b : Bytes) (h : 10 ∈ p ∨ w = 10) :
    scanComment (p ++ w :: b) = scanComment (p ++ [10]) ∧ (scanComment (p ++ [10])).1 <+: p := by
  have trim : ∀ a : Bytes, trimRight (fun b => b == 32 || b == 9 || b == 13) a <+: a := fun a =>
    let ⟨t, ht, _⟩ := trimRight_split _ a; ⟨t, ht.symm⟩
  have free : ∀ a : Bytes, 10 ∉ a → ∀ x ∈ a, x ≠ 10 := fun a h x hx e => h (e ▸ hx)
  by_cases hp : 10 ∈ p
  · obtain ⟨a, c, rfl, ha⟩ := List.eq_append_cons_of_mem hp
    simp only [List.append_assoc, List.cons_append]
    rw [scanComment_at a _ (free a ha), scanComment_at a _ (free a ha)]
    exact ⟨rfl, (trim a).trans (List.prefix_append _ _)⟩
  · obtain rfl : w = 10 := h.resolve_left hp
    rw [scanComment_at p b (free p hp), scanComment_at p [] (free p hp)]
    exact ⟨rfl, trim p⟩

/-! ### strings: once closed, what follows is not looked at -/

theorem indexOf_spec (p : Nat → Bool) : ∀ (r : Bytes) (i : Nat), indexOf p r = some i →
    ∃ pre c post, r = pre ++ c :: post ∧ pre.length = i ∧ p c = true ∧ ∀ x ∈ pre, p x = false
  | [] => fun i h => by simp [indexOf] at h
  | a :: r => fun i h => by
    unfold indexOf at h
    split at h
    · rename_i ha
      cases h
      exact ⟨[], a, r, rfl, rfl, ha, by simp⟩
    · rename_i ha
      obtain ⟨j, hj, rfl⟩ := Option.map_eq_some_iff.mp h
      obtain ⟨pre, c, post, rfl, rfl, hc, hpre⟩ := indexOf_spec p r j hj
      exact ⟨a :: pre, c, post, rfl, rfl, hc, by simpa [ha] using hpre⟩

theorem indexOf_append (p : Nat → Bool) (rest : Bytes) : ∀ pre : Bytes, (∀ x ∈ pre, p x = false) →
    indexOf p (pre ++ rest) = (indexOf p rest).map (· + pre.length)
  | [] => fun _ => by simp
  | a :: pre => fun h => by
    have ha : p a = false := h a (by simp)
    simp only [List.cons_append, indexOf, ha, indexOf_append p rest pre (fun x hx => h x (by simp [hx])),
      Option.map_map, List.length_cons]
    rfl

theorem indexOf_take_free (p : Nat → Bool) : ∀ (r : Bytes) (i : Nat), (∀ j, indexOf p r = some j → i ≤ j) →
    ∀ x ∈ r.take i, p x = false
  | [], _ => fun _ => by simp
  | _ :: _, 0 => fun _ => by simp
  | a :: r, i + 1 => fun h => by
    have ha : p a = false := by
      cases hp : p a with
      | false => rfl
      | true => have := h 0 (by simp [indexOf, hp]); omega
    intro x hx
    rcases List.mem_cons.mp hx with rfl | hx
    · exact ha
    · exact indexOf_take_free p r i (fun j hj => by have := h (j + 1) (by simp [indexOf, ha, hj]); omega) x hx

/-- the text of a closed string: the quotes and, between them, no quote and no line end -/
def QuotedText (raw : Bytes) : Prop :=
  ∃ body, raw = 34 :: body ++ [34] ∧ ∀ x ∈ body, x ≠ 34 ∧ x ≠ 13 ∧ x ≠ 10

/-- `lexQuotedString` succeeds exactly on the texts that begin with a closed string, and returns it -/
theorem scanQuoted_eq_some (s raw : Bytes) : scanQuoted s = some raw ↔ QuotedText raw ∧ raw <+: s := by
  have take1 : ∀ body t : Bytes, (body ++ 34 :: t).take (body.length + 1) = body ++ [34] := by
    intro body t
    rw [List.take_append, List.take_of_length_le (Nat.le_succ _)]
    simp
  constructor
  · intro h
    have key : ∀ (r : Bytes) (i : Nat), indexOf (· == 34) r = some i →
        (∀ j, indexOf (fun b => b == 13 || b == 10) r = some j → i ≤ j) →
        QuotedText (34 :: r.take (i + 1)) ∧ 34 :: r.take (i + 1) <+: 34 :: r := by
      intro r i hi hj
      obtain ⟨body, c, post, rfl, rfl, hc, hbody⟩ := indexOf_spec _ r i hi
      obtain rfl : c = 34 := by simpa using hc
      have hfree := indexOf_take_free _ _ _ hj
      rw [List.take_left' rfl] at hfree
      refine ⟨⟨body, by rw [take1]; rfl, fun x hx => ?_⟩, List.cons_prefix_cons.mpr ⟨rfl, List.take_prefix _ _⟩⟩
      have h1 := hbody x hx
      have h2 := hfree x hx
      simp only [beq_eq_false_iff_ne, Bool.or_eq_false_iff] at h1 h2
      exact ⟨h1, h2.1, h2.2⟩
    revert h
    fun_cases scanQuoted s <;> intro h <;> cases h
    · rename_i r i hi j hj hji
      exact key r i hi (fun j' hj' => by rw [hj] at hj'; cases hj'; omega)
    · rename_i r i hi hj
      exact key r i hi (fun j' hj' => by rw [hj] at hj'; cases hj')
  · rintro ⟨⟨body, rfl, hbody⟩, t, rfl⟩
    have h1 : indexOf (· == 34) (body ++ 34 :: t) = some body.length := by
      rw [indexOf_append _ _ body (fun x hx => by simpa using (hbody x hx).1)]; simp [indexOf]
    have h2 : ∀ j, indexOf (fun b => b == 13 || b == 10) (body ++ 34 :: t) = some j → ¬ j < body.length := by
      intro j hj
      rw [indexOf_append _ _ body (fun x hx => by simpa using (hbody x hx).2)] at hj
      obtain ⟨k, _, rfl⟩ := Option.map_eq_some_iff.mp hj
      omega
    simp only [List.cons_append, List.append_assoc, scanQuoted, List.nil_append, h1, take1]
    split
    · rename_i j hj
      simp [h2 j hj]
    · rfl

theorem prefix_of_snoc {l p : Bytes} {c : Nat} (h : l <+: p ++ [c]) (hl : l.getLast? ≠ some c) : l <+: p :=
  (List.prefix_concat_iff.mp h).resolve_left (fun e => hl (by simp [e]))

theorem QuotedText.getLast {raw : Bytes} (h : QuotedText raw) : raw.getLast? = some 34 := by
  obtain ⟨body, rfl, _⟩ := h
  exact List.getLast?_concat (l := 34 :: body)

theorem scanQuoted_ne_nil (s raw : Bytes) (h : scanQuoted s = some raw) : raw ≠ [] := by
  obtain ⟨⟨body, rfl, _⟩, _⟩ := (scanQuoted_eq_some s raw).mp h
  simp

theorem scanQuoted_blank (p : Bytes) (w : Nat) (hw : isBlank w = true) (b raw : Bytes)
    (h : scanQuoted (p ++ [10]) = some raw) : scanQuoted (p ++ w :: b) = some raw := by
  obtain ⟨hq, hp⟩ := (scanQuoted_eq_some _ raw).mp h
  exact (scanQuoted_eq_some _ raw).mpr
    ⟨hq, (prefix_of_snoc hp (by rw [hq.getLast]; decide)).trans (List.prefix_append _ _)⟩

theorem scanQuoted_lf_none {p : Bytes} (h : scanQuoted p = none) : scanQuoted (p ++ [10]) = none := by
  cases h' : scanQuoted (p ++ [10]) with
  | none => rfl
  | some raw =>
    obtain ⟨hq, hp⟩ := (scanQuoted_eq_some _ raw).mp h'
    rw [(scanQuoted_eq_some _ raw).mpr ⟨hq, prefix_of_snoc hp (by rw [hq.getLast]; decide)⟩] at h
    cases h

/-! ### size declarations: the scanner in stages; what follows the closing bracket is not looked at -/

def optBlank (d r : Bytes) : Bytes × Bytes := if d.isEmpty then ([], r) else spanB isBlank r

def sizeRange (r : Bytes) : Bytes × Bool × Bytes :=
  let sa := spanB isBlank r
  let sb := spanB isDigitB sa.2
  let sc := optBlank sb.1 sb.2
  ([46, 46] ++ sa.1 ++ sb.1 ++ sc.1, !sb.1.isEmpty, sc.2)

def sizeMid (r3 : Bytes) : Bytes × Bool × Bytes :=
  match r3 with
  | 46 :: 46 :: r => sizeRange r
  | _ => ([], false, r3)

theorem scanSizeBody_staged (r0 : Bytes) :
    scanSizeBody r0 =
      let s1 := spanB isBlank r0
      let s2 := spanB isDigitB s1.2
      let s3 := optBlank s2.1 s2.2
      let s4 := sizeMid s3.2
      match s4.2.2 with
      | 93 :: _ => if !s2.1.isEmpty || s4.2.1 then some (s1.1 ++ s2.1 ++ s3.1 ++ s4.1 ++ [93]) else none
      | _ => none := by
  unfold scanSizeBody sizeMid sizeRange optBlank
  rfl

theorem optBlank_split (d r : Bytes) : (optBlank d r).1 ++ (optBlank d r).2 = r := by
  unfold optBlank
  split
  · rfl
  · exact (spanB_spec isBlank r).1

theorem sizeRange_split (r : Bytes) : (sizeRange r).1 ++ (sizeRange r).2.2 = 46 :: 46 :: r := by
  unfold sizeRange
  simp only
  have a := (spanB_spec isBlank r).1
  have b := (spanB_spec isDigitB (spanB isBlank r).2).1
  have c := optBlank_split (spanB isDigitB (spanB isBlank r).2).1 (spanB isDigitB (spanB isBlank r).2).2
  calc _ = 46 :: 46 :: ((spanB isBlank r).1 ++ ((spanB isDigitB (spanB isBlank r).2).1 ++
            ((optBlank (spanB isDigitB (spanB isBlank r).2).1 (spanB isDigitB (spanB isBlank r).2).2).1 ++
             (optBlank (spanB isDigitB (spanB isBlank r).2).1 (spanB isDigitB (spanB isBlank r).2).2).2))) := by simp
    _ = 46 :: 46 :: r := by rw [c, b, a]

theorem sizeMid_split (r3 : Bytes) : (sizeMid r3).1 ++ (sizeMid r3).2.2 = r3 := by
  fun_cases sizeMid r3
  · exact sizeRange_split _
  · rfl

theorem scanSizeBody_split (r0 raw : Bytes) (h : scanSizeBody r0 = some raw) :
    ∃ pre t, raw = pre ++ [93] ∧ r0 = raw ++ t := by
  rw [scanSizeBody_staged] at h
  simp only at h
  have a := (spanB_spec isBlank r0).1
  have b := (spanB_spec isDigitB (spanB isBlank r0).2).1
  have c := optBlank_split (spanB isDigitB (spanB isBlank r0).2).1 (spanB isDigitB (spanB isBlank r0).2).2
  have d := sizeMid_split (optBlank (spanB isDigitB (spanB isBlank r0).2).1 (spanB isDigitB (spanB isBlank r0).2).2).2
  generalize spanB isBlank r0 = s1 at *
  obtain ⟨w1, r1⟩ := s1
  generalize spanB isDigitB r1 = s2 at *
  obtain ⟨d1, r2⟩ := s2
  generalize optBlank d1 r2 = s3 at *
  obtain ⟨w2, r3⟩ := s3
  generalize sizeMid r3 = s4 at *
  obtain ⟨mid, f2, r4⟩ := s4
  simp only at *
  split at h
  · rename_i t
    split at h
    · cases h
      exact ⟨_, t, rfl, by subst a b c d; simp⟩
    · cases h
  · cases h

theorem optBlank_cut (d pre t : Bytes) :
    optBlank d (pre ++ 93 :: t) = ((optBlank d pre).1, (optBlank d pre).2 ++ 93 :: t) := by
  unfold optBlank
  split
  · rfl
  · exact spanB_cut isBlank (by decide) t pre

theorem sizeRange_cut (pre t : Bytes) :
    sizeRange (pre ++ 93 :: t) = ((sizeRange pre).1, (sizeRange pre).2.1, (sizeRange pre).2.2 ++ 93 :: t) := by
  simp only [sizeRange, spanB_cut isBlank (show isBlank 93 = false by decide), spanB_cut isDigitB (show isDigitB 93 = false by decide),
    optBlank_cut]

theorem sizeMid_cut (pre t : Bytes) :
    sizeMid (pre ++ 93 :: t) = ((sizeMid pre).1, (sizeMid pre).2.1, (sizeMid pre).2.2 ++ 93 :: t) := by
  fun_cases sizeMid pre
  case case1 r => exact sizeRange_cut r t
  case case2 h =>
    generalize hs : pre ++ 93 :: t = s
    fun_cases sizeMid s
    case case1 r =>
      obtain ⟨t', e⟩ := (prefix_cut (l := [46, 46]) (by decide) t pre).mp ⟨r, hs.symm⟩
      exact (h t' e.symm).elim
    case case2 => rfl

theorem scanSizeBody_cut (pre t : Bytes) : scanSizeBody (pre ++ 93 :: t) = scanSizeBody (pre ++ [93]) := by
  have h : ∀ t, scanSizeBody (pre ++ 93 :: t) = scanSizeBody (pre ++ 93 :: []) := by
    intro t
    simp only [scanSizeBody_staged, spanB_cut isBlank (show isBlank 93 = false by decide),
      spanB_cut isDigitB (show isDigitB 93 = false by decide), optBlank_cut, sizeMid_cut]
    generalize (sizeMid (optBlank (spanB isDigitB (spanB isBlank pre).2).1 (spanB isDigitB (spanB isBlank pre).2).2).2).2.2 = r4
    cases r4 with
    | nil => rfl
    | cons c r => by_cases hc : c = 93 <;> simp [hc]
  exact h t

theorem scanSizeBody_stable {r0 raw : Bytes} (h : scanSizeBody r0 = some raw) {r0' : Bytes} (hp : raw <+: r0') :
    scanSizeBody r0' = some raw := by
  obtain ⟨pre, t, rfl, rfl⟩ := scanSizeBody_split r0 raw h
  obtain ⟨t', rfl⟩ := hp
  rw [List.append_assoc, List.singleton_append, scanSizeBody_cut] at h ⊢
  exact h

theorem scanSizeBody_dropLast (z : Bytes) (c : Nat) (raw : Bytes) (h : scanSizeBody (z ++ [c]) = some raw)
    (hlen : raw.length < (z ++ [c]).length) : scanSizeBody z = some raw := by
  obtain ⟨_, t, _, e⟩ := scanSizeBody_split _ raw h
  refine scanSizeBody_stable h ((List.prefix_concat_iff.mp ⟨t, e.symm⟩).resolve_left (fun e' => ?_))
  rw [e'] at hlen
  omega

theorem scanSize_prefix {s raw : Bytes} (h : scanSize s = some raw) : raw <+: s := by
  revert h
  fun_cases scanSize s <;> intro h
  · obtain ⟨body, hb, rfl⟩ := Option.map_eq_some_iff.mp h
    obtain ⟨_, t, _, e⟩ := scanSizeBody_split _ body hb
    exact List.cons_prefix_cons.mpr ⟨rfl, t, e.symm⟩
  · cases h

theorem scanSize_stable {s raw : Bytes} (h : scanSize s = some raw) {s' : Bytes} (hp : raw <+: s') :
    scanSize s' = some raw := by
  revert h
  fun_cases scanSize s <;> intro h
  · obtain ⟨body, hb, rfl⟩ := Option.map_eq_some_iff.mp h
    obtain ⟨t, rfl⟩ := hp
    simp [scanSize, scanSizeBody_stable hb (List.prefix_append body t)]
  · cases h

theorem scanSize_getLast {s raw : Bytes} (h : scanSize s = some raw) : raw.getLast? = some 93 := by
  revert h
  fun_cases scanSize s <;> intro h
  · obtain ⟨body, hb, rfl⟩ := Option.map_eq_some_iff.mp h
    obtain ⟨pre, _, rfl, _⟩ := scanSizeBody_split _ body hb
    rw [← List.cons_append, List.getLast?_concat]
  · cases h

theorem scanSize_ne_nil (s raw : Bytes) (h : scanSize s = some raw) : raw ≠ [] := fun e => by
  have := scanSize_getLast h
  rw [e] at this
  cases this

theorem scanSize_blank (p : Bytes) (w : Nat) (b raw : Bytes) (h : scanSize (p ++ [10]) = some raw) :
    scanSize (p ++ w :: b) = some raw :=
  scanSize_stable h ((prefix_of_snoc (scanSize_prefix h) (by rw [scanSize_getLast h]; decide)).trans
    (List.prefix_append _ _))

theorem scanSize_lf_none {p : Bytes} (h : scanSize p = none) : scanSize (p ++ [10]) = none := by
  cases h' : scanSize (p ++ [10]) with
  | none => rfl
  | some raw =>
    rw [scanSize_stable h' (prefix_of_snoc (scanSize_prefix h') (by rw [scanSize_getLast h']; decide))] at h
    cases h

end Lex
end Secs
