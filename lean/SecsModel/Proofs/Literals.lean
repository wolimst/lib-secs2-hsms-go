/-
What an integer literal of the SML grammar denotes: decimal, `0x…`, `0o…` / a leading `0`,
`0b…`, with an optional sign — and that ParseUint / ParseInt with base 0 (as the SML parser
calls them) return exactly that number when it fits, for every literal.
-/
import SecsModel.Proofs.Decimal
namespace Secs
open Strconv

theorem parseUint_of_prefix (s ds : Bytes) (b bits : Nat) (hs : s ≠ []) (hpre : basePrefix s = (b, ds)) (hb : 1 ≤ b)
    (hd : digitsOf b ds) (hfit : litVal b ds ≤ 2 ^ (if (bits == 0) = true then 64 else bits) - 1) :
    parseUint s 0 bits = ⟨litVal b ds, none⟩ := by
  rw [parseUint_digits s ds 0 b bits hs hpre hb hd, if_pos hfit]

theorem basePrefix_hex (x : Nat) (hx : x = 120 ∨ x = 88) (c : Nat) (r : Bytes) :
    basePrefix (48 :: x :: c :: r) = (16, c :: r) := by
  rcases hx with rfl | rfl <;> simp [basePrefix, lowerB, isUpperB]

theorem basePrefix_bin (x : Nat) (hx : x = 98 ∨ x = 66) (c : Nat) (r : Bytes) :
    basePrefix (48 :: x :: c :: r) = (2, c :: r) := by
  rcases hx with rfl | rfl <;> simp [basePrefix, lowerB, isUpperB]

theorem basePrefix_oct (x : Nat) (hx : x = 111 ∨ x = 79) (c : Nat) (r : Bytes) :
    basePrefix (48 :: x :: c :: r) = (8, c :: r) := by
  rcases hx with rfl | rfl <;> simp [basePrefix, lowerB, isUpperB]

theorem basePrefix_zero (c : Nat) (r : Bytes) (hc : 48 ≤ c ∧ c ≤ 55) : basePrefix (48 :: c :: r) = (8, c :: r) := by
  have hl : lowerB c = c := by
    unfold lowerB isUpperB
    have : ¬ ((decide (65 ≤ c) && decide (c ≤ 90)) = true) := by simp; omega
    rw [if_neg this]
  have h1 : (lowerB c == 98) = false := by rw [hl]; simp; omega
  have h2 : (lowerB c == 111) = false := by rw [hl]; simp; omega
  have h3 : (lowerB c == 120) = false := by rw [hl]; simp; omega
  simp [basePrefix, h1, h2, h3]

theorem basePrefix_dec (c : Nat) (r : Bytes) (hc : 49 ≤ c ∧ c ≤ 57) : basePrefix (c :: r) = (10, c :: r) :=
  basePrefix_ne c r (by omega)

/-- **Unsigned literals denote their value**: hexadecimal, binary, octal (both spellings) and
decimal, read with base 0 into `bits` bits. -/
theorem uint_literal_denotes (bits : Nat) (c : Nat) (r : Bytes) (value : Nat)
    (hfit : value ≤ 2 ^ (if (bits == 0) = true then 64 else bits) - 1) :
    (∀ x, (x = 120 ∨ x = 88) → digitsOf 16 (c :: r) → litVal 16 (c :: r) = value → parseUint (48 :: x :: c :: r) 0 bits = ⟨value, none⟩) ∧
    (∀ x, (x = 98 ∨ x = 66) → digitsOf 2 (c :: r) → litVal 2 (c :: r) = value → parseUint (48 :: x :: c :: r) 0 bits = ⟨value, none⟩) ∧
    (∀ x, (x = 111 ∨ x = 79) → digitsOf 8 (c :: r) → litVal 8 (c :: r) = value → parseUint (48 :: x :: c :: r) 0 bits = ⟨value, none⟩) ∧
    (digitsOf 8 (c :: r) → litVal 8 (c :: r) = value → parseUint (48 :: c :: r) 0 bits = ⟨value, none⟩) ∧
    (49 ≤ c ∧ c ≤ 57 → digitsOf 10 (c :: r) → litVal 10 (c :: r) = value → parseUint (c :: r) 0 bits = ⟨value, none⟩) := by
  refine ⟨?_, ?_, ?_, ?_, ?_⟩
  · intro x hx hd hv
    rw [← hv] at hfit ⊢
    exact parseUint_of_prefix _ _ 16 bits (by simp) (basePrefix_hex x hx c r) (by decide) hd hfit
  · intro x hx hd hv
    rw [← hv] at hfit ⊢
    exact parseUint_of_prefix _ _ 2 bits (by simp) (basePrefix_bin x hx c r) (by decide) hd hfit
  · intro x hx hd hv
    rw [← hv] at hfit ⊢
    exact parseUint_of_prefix _ _ 8 bits (by simp) (basePrefix_oct x hx c r) (by decide) hd hfit
  · intro hd hv
    rw [← hv] at hfit ⊢
    obtain ⟨d, hdv, hd8⟩ := hd c (by simp)
    have hc : 48 ≤ c ∧ c ≤ 55 := by
      simp only [digitVal] at hdv
      split at hdv
      · rename_i h; simp only [isDigitB, Bool.and_eq_true, decide_eq_true_eq] at h
        injection hdv with hdv; omega
      · split at hdv
        · injection hdv with hdv; omega
        · cases hdv
    exact parseUint_of_prefix _ _ 8 bits (by simp) (basePrefix_zero c r hc) (by decide) hd hfit
  · intro hc hd hv
    rw [← hv] at hfit ⊢
    exact parseUint_of_prefix _ _ 10 bits (by simp) (basePrefix_dec c r hc) (by decide) hd hfit

theorem int_literal_denotes (u : Bytes) (bits B v : Nat) (hB : (if (bits == 0) = true then 64 else bits) = B)
    (hu : parseUint u 0 bits = ⟨v, none⟩) (hne : u ≠ []) (hfirst : ∀ c r, u = c :: r → c ≠ 43 ∧ c ≠ 45) :
    (v < 2 ^ (B - 1) → parseInt u 0 bits = ⟨v, none⟩ ∧ parseInt (43 :: u) 0 bits = ⟨v, none⟩) ∧
    (v ≤ 2 ^ (B - 1) → parseInt (45 :: u) 0 bits = ⟨-(v : Int), none⟩) := by
  have hs0 := splitSign_unsigned u hfirst
  exact ⟨fun hv => ⟨parseInt_of_parseUint u u false 0 bits B v hne hs0 hB hu hv,
      parseInt_of_parseUint (43 :: u) u false 0 bits B v (by simp) rfl hB hu hv⟩,
    fun hv => parseInt_of_parseUint (45 :: u) u true 0 bits B v (by simp) rfl hB hu hv⟩

example : litVal 16 [49, 70] = 31 ∧ litVal 2 [49, 48, 49] = 5 ∧ litVal 8 [49, 55] = 15 ∧ litVal 10 [52, 50] = 42 := by decide

end Secs
