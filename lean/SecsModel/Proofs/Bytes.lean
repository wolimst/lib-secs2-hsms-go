/- Helper lemmas about big-endian bytes and item headers. -/
import SecsModel.Basic
import SecsModel.Model.Item
import SecsModel.Spec.Denotes
namespace Secs
open Spec

theorem beEnc_length (k n : Nat) : (beEnc k n).length = k := by
  induction k generalizing n with
  | zero => rfl
  | succ k ih => simp [beEnc, ih]

theorem beDec_append (xs : Bytes) (b : Nat) : beDec (xs ++ [b]) = beDec xs * 256 + b := by
  simp [beDec, List.foldl_append]

theorem beDec_beEnc (k n : Nat) (h : n < 256 ^ k) : beDec (beEnc k n) = n := by
  induction k generalizing n with
  | zero => simp [beEnc, beDec] at *; omega
  | succ k ih =>
    rw [beEnc, beDec_append, ih]
    · omega
    · rw [Nat.pow_succ] at h; omega

theorem beEnc_mod (k n : Nat) : beEnc k (n % 256 ^ k) = beEnc k n := by
  induction k generalizing n with
  | zero => rfl
  | succ k ih =>
    simp only [beEnc]
    have h1 : n % 256 ^ (k + 1) % 256 = n % 256 := by
      rw [Nat.pow_succ, Nat.mul_comm]; exact Nat.mod_mul_right_mod n 256 (256 ^ k)
    have h2 : n % 256 ^ (k + 1) / 256 = n / 256 % 256 ^ k := by
      rw [Nat.pow_succ, Nat.mul_comm]; exact Nat.mod_mul_right_div_self n 256 (256 ^ k)
    rw [h1, h2, ih]

theorem beEnc_isBytes (k n : Nat) : IsBytes (beEnc k n) := by
  induction k generalizing n with
  | zero => intro b hb; simp [beEnc] at hb
  | succ k ih =>
    intro b hb
    simp only [beEnc, List.mem_append, List.mem_singleton] at hb
    rcases hb with hb | hb
    · exact ih _ b hb
    · omega

/-- both `beEnc` and `beDec` work from the low byte, the last one -/
theorem snoc_induction {P : Bytes → Prop} (nil : P []) (snoc : ∀ xs b, P xs → P (xs ++ [b])) (bs : Bytes) : P bs := by
  rw [← List.reverse_reverse bs]
  induction bs.reverse with
  | nil => exact nil
  | cons b r ih => rw [List.reverse_cons]; exact snoc _ _ ih

theorem beDec_lt (bs : Bytes) (h : IsBytes bs) : beDec bs < 256 ^ bs.length := by
  induction bs using snoc_induction with
  | nil => simp [beDec]
  | snoc xs b ih =>
    have hb : b < 256 := h b (by simp)
    have := ih (fun x hx => h x (by simp [hx]))
    rw [beDec_append, List.length_append, List.length_singleton, Nat.pow_succ]
    omega

theorem beEnc_beDec (bs : Bytes) (h : IsBytes bs) : beEnc bs.length (beDec bs) = bs := by
  induction bs using snoc_induction with
  | nil => rfl
  | snoc xs b ih =>
    have hb : b < 256 := h b (by simp)
    rw [List.length_append, List.length_singleton, beEnc, beDec_append, Nat.mul_comm, Nat.mul_add_div (by decide),
      Nat.mul_add_mod, Nat.div_eq_of_lt hb, Nat.mod_eq_of_lt hb, Nat.add_zero, ih (fun x hx => h x (by simp [hx]))]

theorem isBytes_take (l : Bytes) (n : Nat) (h : IsBytes l) : IsBytes (l.take n) :=
  fun b hb => h b (List.mem_of_mem_take hb)

theorem isBytes_drop (l : Bytes) (n : Nat) (h : IsBytes l) : IsBytes (l.drop n) :=
  fun b hb => h b (List.mem_of_mem_drop hb)

theorem nLB_pos (n : Nat) : 1 ≤ nLB n ∧ nLB n ≤ 3 := by
  unfold nLB; split
  · omega
  · split <;> omega

theorem nLB_ok (n : Nat) (h : n ≤ maxByteSize) : n < 256 ^ nLB n := by
  unfold maxByteSize at h
  unfold nLB; split
  · omega
  · split <;> omega

theorem lenBytes_eq_nLB (n : Nat) : lenBytes n = nLB n := by
  simp only [lenBytes, nLB, show n < 256 ↔ n ≤ 255 by omega, show n < 65536 ↔ n ≤ 65535 by omega]

theorem limit_eq : Spec.limit = maxByteSize := rfl

theorem kok_lenBytes (n : Nat) (h : n ≤ limit) : KOk (lenBytes n) n := by
  unfold limit at h
  unfold KOk lenBytes
  split
  · omega
  · split <;> omega

theorem kok_limit (k n : Nat) (h : KOk k n) : n ≤ limit := by
  obtain ⟨_, h3, hn⟩ := h
  have : (256 : Nat) ^ k ≤ 256 ^ 3 := Nat.pow_le_pow_right (by decide) h3
  unfold limit
  omega

theorem Fmt.code_lt (f : Fmt) : f.code * 4 + 3 < 256 := by cases f <;> decide

/-- the left side is `getHeaderBytes`' three length bytes with the leading zero bytes dropped -/
theorem lengthBytes_eq (n : Nat) (h : n ≤ 16777215) :
    (if n / 65536 % 256 = 0 then (if n / 256 % 256 = 0 then [n % 256] else [n / 256 % 256, n % 256])
      else [n / 65536 % 256, n / 256 % 256, n % 256]) = beEnc (nLB n) n := by
  unfold nLB
  by_cases h1 : n ≤ 255
  · rw [if_pos h1, Nat.div_eq_of_lt (show n < 65536 by omega), Nat.div_eq_of_lt (show n < 256 by omega)]
    rfl
  · have d1 : 0 < n / 256 := Nat.div_pos (by omega) (by decide)
    by_cases h2 : n ≤ 65535
    · have d2 : n / 256 < 256 := Nat.div_lt_of_lt_mul (by omega)
      rw [if_neg h1, if_pos h2, Nat.div_eq_of_lt (show n < 65536 by omega), Nat.mod_eq_of_lt d2,
        if_pos rfl, if_neg (by omega)]
      simp only [beEnc, List.nil_append, List.cons_append, Nat.mod_eq_of_lt d2]
    · have d3 : 0 < n / 65536 := Nat.div_pos (by omega) (by decide)
      have d4 : n / 65536 < 256 := Nat.div_lt_of_lt_mul (by omega)
      rw [if_neg h1, if_neg h2, Nat.mod_eq_of_lt d4, if_neg (by omega)]
      simp only [beEnc, List.nil_append, List.cons_append, Nat.div_div_eq_div_mul, Nat.mod_eq_of_lt d4]

theorem headerBytes_closed (f : Fmt) (size : Nat) (h : size * f.width ≤ maxByteSize) :
    headerBytes f size = some ((f.code * 4 + nLB (size * f.width)) :: beEnc (nLB (size * f.width)) (size * f.width)) := by
  have hc := Fmt.code_lt f
  have hk := (nLB_pos (size * f.width)).2
  unfold headerBytes dataByteLength
  simp only [show ¬ size * f.width > maxByteSize by omega, if_false, lengthBytes_eq _ h, beEnc_length]
  rw [Nat.mod_eq_of_lt (by omega)]

theorem headerBytes_none (f : Fmt) (size : Nat) (h : size * f.width > maxByteSize) :
    headerBytes f size = none := by
  unfold headerBytes dataByteLength
  simp [h]

end Secs
