/-
Generated variable names are unique: suffixing a base name that contains no `[` with the index
groups of a copy-index stack is injective in (base name, stack), and the renumbered ellipsis
names `...[k]` are injective in k. So distinct (variable, copy) pairs never collide.
-/
import SecsModel.Model.Fill
import SecsModel.Proofs.Decimal
namespace Secs

/-- a base name without an index group of its own -/
def plainName (n : Name) : Bool := n.all (· != 91)

theorem decDigits_inj (a b : Nat) (h : decDigits a = decDigits b) : a = b := by
  have ha := (decDigits_spec a).2
  have hb := (decDigits_spec b).2
  rw [h] at ha
  exact ha.symm.trans hb

theorem decDigits_no93 (a : Nat) : ∀ c ∈ decDigits a, c ≠ 93 := by
  intro c hc
  have := (decDigits_spec a).1 c hc
  omega

/-- two ways of cutting a list at the first element without `p` agree: the pieces in front hold
`p` throughout, the pieces behind are empty or start with an element without `p` -/
theorem append_split {α} (p : α → Prop) {l1 l2 t1 t2 : List α} (h1 : ∀ x ∈ l1, p x) (h2 : ∀ x ∈ l2, p x)
    (ht1 : ∀ x ∈ t1.head?, ¬p x) (ht2 : ∀ x ∈ t2.head?, ¬p x) (h : l1 ++ t1 = l2 ++ t2) : l1 = l2 ∧ t1 = t2 := by
  rcases List.append_eq_append_iff.mp h with ⟨a, rfl, rfl⟩ | ⟨c, rfl, rfl⟩
  · cases a with
    | nil => simp
    | cons x a => exact absurd (h2 x (by simp)) (ht1 x (by simp))
  · cases c with
    | nil => simp
    | cons x c => exact absurd (h1 x (by simp)) (ht2 x (by simp))

theorem idxSuffix_append (a b : List Nat) : idxSuffix (a ++ b) = idxSuffix a ++ idxSuffix b :=
  List.flatMap_append

theorem idxSuffix_cons (i : Nat) (s : List Nat) :
    idxSuffix (i :: s) = 91 :: (decDigits i ++ 93 :: idxSuffix s) := by
  simp [idxSuffix]

-- patterns on the analysed argument only, the rest by `fun`: a pattern over all arguments builds a matcher over each
theorem idxSuffix_inj : ∀ (s1 s2 : List Nat), idxSuffix s1 = idxSuffix s2 → s1 = s2
  | [], [] => fun _ => rfl
  | [], j :: s2 => fun h => by rw [idxSuffix_cons] at h; simp [idxSuffix] at h
  | i :: s1, [] => fun h => by rw [idxSuffix_cons] at h; simp [idxSuffix] at h
  | i :: s1, j :: s2 => fun h => by
    rw [idxSuffix_cons, idxSuffix_cons] at h
    simp only [List.cons.injEq, true_and] at h
    obtain ⟨hd, hr⟩ := append_split (· ≠ 93) (decDigits_no93 i) (decDigits_no93 j) (by simp) (by simp) h
    rw [decDigits_inj i j hd, idxSuffix_inj s1 s2 (List.cons.inj hr).2]

/-- an index suffix is empty or starts with `[` -/
theorem idxSuffix_head (s : List Nat) : ∀ x ∈ (idxSuffix s).head?, ¬x ≠ 91 := by
  cases s with
  | nil => simp [idxSuffix]
  | cons i r => simp [idxSuffix_cons]

/-- **Suffixing is injective**: two generated names coincide only if the base names and the
copy-index stacks coincide. -/
theorem suffixed_inj (n1 n2 : Name) (s1 s2 : List Nat) (h1 : plainName n1 = true) (h2 : plainName n2 = true)
    (h : n1 ++ idxSuffix s1 = n2 ++ idxSuffix s2) : n1 = n2 ∧ s1 = s2 := by
  have plain : ∀ n, plainName n = true → ∀ x ∈ n, x ≠ 91 := fun n hn x hx => by
    simpa using List.all_eq_true.mp hn x hx
  obtain ⟨a, b⟩ := append_split (· ≠ 91) (plain n1 h1) (plain n2 h2) (idxSuffix_head s1) (idxSuffix_head s2) h
  exact ⟨a, idxSuffix_inj s1 s2 b⟩

theorem generated_nodup (pairs : List (Name × List Nat)) (hp : ∀ p ∈ pairs, plainName p.1 = true)
    (hn : pairs.Nodup) : (pairs.map (fun p => p.1 ++ idxSuffix p.2)).Nodup := by
  refine List.pairwise_map.mpr (List.Pairwise.imp_of_mem (fun {p q} hp' hq' hne heq => hne ?_) hn)
  obtain ⟨a, b⟩ := suffixed_inj p.1 q.1 p.2 q.2 (hp p hp') (hp q hq') heq
  exact Prod.ext a b

/-- distinct plain names under distinct index stacks: no generated name occurs twice -/
theorem stacks_nodup (names : List Name) (stacks : List (List Nat))
    (hp : ∀ x ∈ names, plainName x = true) (hn : names.Nodup) (hs : stacks.Nodup) :
    (stacks.flatMap (fun st => names.map (fun x => x ++ idxSuffix st))).Nodup := by
  refine List.pairwise_flatMap.mpr ⟨fun st _ => ?_, ?_⟩
  · -- under one stack the base names differ
    exact List.pairwise_map.mpr (hn.imp_of_mem fun ha hb hne heq => hne (suffixed_inj _ _ _ _ (hp _ ha) (hp _ hb) heq).1)
  · -- under two stacks the suffixes differ
    refine hs.imp fun hne x hx y hy heq => hne ?_
    obtain ⟨a, ha, rfl⟩ := List.mem_map.mp hx
    obtain ⟨b, hb, rfl⟩ := List.mem_map.mp hy
    exact (suffixed_inj _ _ _ _ (hp a ha) (hp b hb) heq).2

/-- the copies j = 0 … n of a group of distinct plain names under the stack `outer ++ [j]`:
no generated name occurs twice (one level of expansion) -/
theorem copies_nodup (names : List Name) (outer : List Nat) (n : Nat)
    (hp : ∀ x ∈ names, plainName x = true) (hn : names.Nodup) :
    ((List.range (n + 1)).flatMap (fun j => names.map (fun x => x ++ idxSuffix (outer ++ [j])))).Nodup := by
  have := stacks_nodup names ((List.range (n + 1)).map (outer ++ [·])) hp hn
    (List.pairwise_map.mpr (List.nodup_range.imp fun hne h => hne (by simpa using h)))
  rwa [List.flatMap_map] at this

/-- renumbered ellipses `...[k]` are distinct for distinct k -/
theorem ellipsis_names_inj (a b : Nat) (h : ([46, 46, 46, 91] : Bytes) ++ decDigits a ++ [93] = [46, 46, 46, 91] ++ decDigits b ++ [93]) : a = b := by
  simp only [List.cons_append, List.nil_append, List.cons.injEq, true_and] at h
  exact decDigits_inj a b (List.append_cancel_right h)

end Secs
