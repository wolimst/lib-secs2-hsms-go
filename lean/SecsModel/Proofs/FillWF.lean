/-
API closure: well-formedness is an invariant of every producer of item trees.

`Tmpl.wfS` is `Tmpl.wf` without the value-range clause of float slots (what `floatStore` hands
out is a property of the float library, not of this code): sizes within the limit, widths valid,
integer/binary values in range, every variable name valid, an ellipsis only as a list's own slot,
not first and at most one per list, and NO NAME TWICE ANYWHERE IN THE TREE.

Every factory hands out a `wfS` node (`mkInt_wfS` … `mkList_wfS`, from the characterisations in
Proofs/Factories.lean). The walk through FillVariables is done once, for any property `P` of items
with the closure properties `FillInv P`: `emitSlots_inv`, `emitRepeat_inv`, `fillEllT_inv`,
`fillSlots_inv`, `fill_inv`. Its instances:
 * `wfS` here (`wfS_inv`): `emitSlots_wfS`, `emitRepeat_wfS`, `fillEllT_wfS`, `fill_wfS` /
   `Tmpl.fill_wfS`: FillVariables on a `wfS` tree with `wfS` fill-in items returns a `wfS` tree,
   whatever the table holds — so after any fill and any expansion no name occurs twice
   (`fill_names_unique`);
 * float-freeness at the end of the file (`ff_inv`).
For float-free trees `wfS` is `wf` (`wf_of_wfS`), and `wf → wfS` always (`wfS_of_wf`).
-/
import SecsModel.Model.Fill
import SecsModel.Proofs.Factories
namespace Secs

mutual
def Tmpl.wfS : Tmpl → Bool
  | .list xs => xs.len ≤ maxByteSize && xs.wfSAll && listOwnOk xs 0 false && nodupNames xs.vars
  | .ascii s => s.length ≤ maxByteSize && s.all (· < 128)
  | .asciiVar n mn mx => isValidVarName n && 0 ≤ mn && -1 ≤ mx && (mx == -1 || mn ≤ mx)
  | .binary xs => xs.length ≤ maxByteSize && slotsOk (· < 256) xs
  | .boolean xs => xs.length ≤ maxByteSize && slotsOk (fun _ => true) xs
  | .int w xs => validWidthInt w && xs.length * w ≤ maxByteSize && slotsOk (intInRange w) xs
  | .uint w xs => validWidthInt w && xs.length * w ≤ maxByteSize && slotsOk (uintInRange w) xs
  | .float w xs => validWidthFloat w && xs.length * w ≤ maxByteSize && slotsOk (fun _ => true) xs
  | .empty => true

def Slots.wfSAll : Slots → Bool
  | .nil => true
  | .item t r => t.wfS && r.wfSAll
  | .var _ r => r.wfSAll
end

-- no float item anywhere
mutual
def Tmpl.floatFree : Tmpl → Bool
  | .list xs => xs.floatFreeAll
  | .float _ _ => false
  | _ => true

def Slots.floatFreeAll : Slots → Bool
  | .nil => true
  | .item t r => t.floatFree && r.floatFreeAll
  | .var _ r => r.floatFreeAll
end

-- patterns on the analysed argument only, the rest by `fun`: a pattern over all arguments builds a matcher over each
mutual
theorem wfS_of_wf : ∀ t : Tmpl, t.wf = true → t.wfS = true
  | .list xs => fun h => by
    simp only [Tmpl.wf, Tmpl.wfS, Bool.and_eq_true] at *
    exact ⟨⟨⟨h.1.1.1, wfSAll_of_wfAll xs h.1.1.2⟩, h.1.2⟩, h.2⟩
  | .ascii _ | .asciiVar _ _ _ | .binary _ | .boolean _ | .int _ _ | .uint _ _ => fun h => h
  | .float w xs => fun h => by
    simp only [Tmpl.wf, Tmpl.wfS, Bool.and_eq_true] at *
    exact ⟨h.1, List.map_id xs ▸ slotsOk_map id (fun _ => rfl) (fun a => ⟨a, rfl, fun _ => rfl⟩) xs h.2⟩
  | .empty => fun _ => rfl

theorem wfSAll_of_wfAll : ∀ xs : Slots, xs.wfAll = true → xs.wfSAll = true
  | .nil => fun _ => rfl
  | .item t r => fun h => by
    simp only [Slots.wfAll, Slots.wfSAll, Bool.and_eq_true] at *
    exact ⟨wfS_of_wf t h.1, wfSAll_of_wfAll r h.2⟩
  | .var _ r => fun h => by
    simp only [Slots.wfAll, Slots.wfSAll] at *
    exact wfSAll_of_wfAll r h
end

mutual
theorem wf_of_wfS : ∀ t : Tmpl, t.wfS = true → t.floatFree = true → t.wf = true
  | .list xs => fun h hf => by
    simp only [Tmpl.wf, Tmpl.wfS, Bool.and_eq_true, Tmpl.floatFree] at *
    exact ⟨⟨⟨h.1.1.1, wfAll_of_wfSAll xs h.1.1.2 hf⟩, h.1.2⟩, h.2⟩
  | .ascii _ | .asciiVar _ _ _ | .binary _ | .boolean _ | .int _ _ | .uint _ _ => fun h _ => h
  | .float _ _ => fun _ hf => by simp [Tmpl.floatFree] at hf
  | .empty => fun _ _ => rfl

theorem wfAll_of_wfSAll : ∀ xs : Slots, xs.wfSAll = true → xs.floatFreeAll = true → xs.wfAll = true
  | .nil => fun _ _ => rfl
  | .item t r => fun h hf => by
    simp only [Slots.wfAll, Slots.wfSAll, Slots.floatFreeAll, Bool.and_eq_true] at *
    exact ⟨wf_of_wfS t h.1 hf.1, wfAll_of_wfSAll r h.2 hf.2⟩
  | .var _ r => fun h hf => by
    simp only [Slots.wfAll, Slots.wfSAll, Slots.floatFreeAll] at *
    exact wfAll_of_wfSAll r h hf
end

theorem wfS_vars_nodup (t : Tmpl) (hw : t.wfS = true) : nodupNames t.vars = true := by
  cases t with
  | list xs => simp only [Tmpl.wfS, Bool.and_eq_true] at hw; exact hw.2
  | ascii s => rfl
  | asciiVar n a b => rfl
  | empty => rfl
  | binary xs | boolean xs | int w xs | uint w xs | float w xs =>
    simp only [Tmpl.wfS, slotsOk, Bool.and_eq_true] at hw; exact hw.2.2

theorem mkInt_wfS (w : Nat) (args : List GoVal) (t : Tmpl) (h : mkInt w args = some t) : t.wfS = true := by
  obtain ⟨xs, _, hw, rfl⟩ := mkInt_eq_some.mp h
  exact wfS_of_wf _ hw

theorem mkUint_wfS (w : Nat) (args : List GoVal) (t : Tmpl) (h : mkUint w args = some t) : t.wfS = true := by
  obtain ⟨xs, _, hw, rfl⟩ := mkUint_eq_some.mp h
  exact wfS_of_wf _ hw

theorem mkBoolean_wfS (args : List GoVal) (t : Tmpl) (h : mkBoolean args = some t) : t.wfS = true := by
  obtain ⟨xs, _, hw, rfl⟩ := mkBoolean_eq_some.mp h
  exact wfS_of_wf _ hw

theorem mkAscii_wfS (s : Bytes) (t : Tmpl) (h : mkAscii s = some t) : t.wfS = true := by
  obtain ⟨hw, rfl⟩ := mkAscii_eq_some.mp h
  exact wfS_of_wf _ hw

theorem mkAsciiVar_wfS (n : Name) (mn mx : Int) (t : Tmpl) (h : mkAsciiVar n mn mx = some t) : t.wfS = true := by
  obtain ⟨hw, rfl⟩ := mkAsciiVar_eq_some.mp h
  exact wfS_of_wf _ hw

theorem mkFloat_wfS (w : Nat) (args : List GoVal) (t : Tmpl) (h : mkFloat w args = some t) : t.wfS = true := by
  obtain ⟨xs, _, hv, hlen, _, hok, rfl⟩ := mkFloat_eq_some.mp h
  simp only [Tmpl.wfS, hv, hok, List.length_map, Bool.true_and, Bool.and_true, decide_eq_true_eq]
  exact hlen

theorem mkBinary_wfS (args : List GoVal) (t : Tmpl) (h : mkBinary args = some t) : t.wfS = true := by
  obtain ⟨zs, _, hw, rfl⟩ := mkBinary_eq_some.mp h
  exact wfS_of_wf _ hw

theorem Slots.items_take : ∀ (k : Nat) (xs : Slots), ∀ t ∈ (xs.take k).items, t ∈ xs.items
  | 0, xs => fun t h => by cases xs <;> simp [Slots.take, Slots.items] at h
  | _ + 1, .nil => fun t h => by simp [Slots.take, Slots.items] at h
  | k + 1, .item u r => fun t h => by
    simp only [Slots.take, Slots.items, List.mem_cons] at h ⊢
    exact h.imp_right (Slots.items_take k r t)
  | k + 1, .var _ r => fun t h => Slots.items_take k r t h

theorem Slots.items_drop : ∀ (k : Nat) (xs : Slots), ∀ t ∈ (xs.drop k).items, t ∈ xs.items
  | 0, xs => fun t h => by cases xs <;> exact h
  | _ + 1, .nil => fun t h => by simp [Slots.drop, Slots.items] at h
  | k + 1, .item u r => fun t h => List.mem_cons_of_mem _ (Slots.items_drop k r t h)
  | k + 1, .var _ r => fun t h => Slots.items_drop k r t h

theorem Slots.take_len (xs : Slots) (p : Nat) (h : p ≤ xs.len) : (xs.take p).len = p := by
  induction p generalizing xs with
  | zero => cases xs <;> rfl
  | succ k ih =>
    cases xs with
    | nil => simp [Slots.len] at h
    | item t r => simp [Slots.take, Slots.len, ih r (by simp [Slots.len] at h; omega)]
    | var n r => simp [Slots.take, Slots.len, ih r (by simp [Slots.len] at h; omega)]

theorem Slots.drop_len (xs : Slots) (p : Nat) : (xs.drop p).len = xs.len - p := by
  induction p generalizing xs with
  | zero => cases xs <;> simp [Slots.drop]
  | succ k ih =>
    cases xs with
    | nil => simp [Slots.drop, Slots.len]
    | item t r => simp [Slots.drop, Slots.len, ih r]
    | var n r => simp [Slots.drop, Slots.len, ih r]

/-- what makes `P` an invariant of FillVariables: it passes from a list to its items, and every
producer of a node that the fill calls establishes or keeps it -/
structure FillInv (P : Tmpl → Prop) : Prop where
  items : ∀ {xs}, P (.list xs) → ∀ t ∈ xs.items, P t
  mkList : ∀ {a t}, mkList a = some t → (∀ u, GoVal.item u ∈ a → P u) → P t
  mkAsciiVar : ∀ {n mn mx t}, mkAsciiVar n mn mx = some t → P t
  fillLeaf : ∀ {t e t'}, P t → fillLeaf t e = some t' → P t'

section
variable {P : Tmpl → Prop}

theorem emitSlots_inv (hP : FillInv P) {child : Tmpl → FillSt → Option (Tmpl × FillSt)}
    (hc : ∀ t st t' st', P t → child t st = some (t', st') → P t') (multiple : Bool) :
    ∀ (xs : Slots) (st : FillSt) (a : List GoVal) (st' : FillSt), (∀ t ∈ xs.items, P t) →
      emitSlots child multiple xs st = some (a, st') → ∀ u, GoVal.item u ∈ a → P u
  | .nil => fun st a st' _ h u hu => by
    simp only [emitSlots, Option.some.injEq, Prod.mk.injEq] at h
    simp [← h.1] at hu
  | .var n r => fun st a st' hx h u hu => by
    simp only [emitSlots, Option.map_eq_some_iff, Prod.exists, Prod.mk.injEq] at h
    obtain ⟨b, s, hr, rfl, rfl⟩ := h
    simp only [List.mem_cons, reduceCtorEq, false_or] at hu
    exact emitSlots_inv hP hc multiple r _ b _ hx hr u hu
  | .item t r => fun st a st' hx h u hu => by
    simp only [emitSlots] at h
    split at h
    · cases h
    · rename_i g st1 hhere
      simp only [Option.map_eq_some_iff, Prod.exists, Prod.mk.injEq] at h
      obtain ⟨b, s, hr, rfl, rfl⟩ := h
      have ht : P t := hx t (by simp [Slots.items])
      rcases List.mem_cons.mp hu with rfl | hu
      · -- the argument made from this slot, by the branches of `emitSlots` (the last stands for six kinds of `t`)
        split at hhere
        · simp only [Option.map_eq_some_iff, Prod.exists, Prod.mk.injEq, GoVal.item.injEq] at hhere
          obtain ⟨t', s', hch, rfl, rfl⟩ := hhere
          exact hc _ _ _ _ ht hch
        · simp at hhere
        · simp only [Option.map_eq_some_iff, Prod.mk.injEq, GoVal.item.injEq] at hhere
          obtain ⟨t', hmk, rfl, rfl⟩ := hhere
          exact hP.mkAsciiVar hmk
        · split at hhere
          · simp only [Option.some.injEq, Prod.mk.injEq, GoVal.item.injEq] at hhere
            exact hhere.1 ▸ ht
          · simp only [Option.map_eq_some_iff, Prod.mk.injEq, GoVal.item.injEq] at hhere
            obtain ⟨t', hfl, rfl, rfl⟩ := hhere
            exact hP.fillLeaf ht hfl
      · exact emitSlots_inv hP hc multiple r _ b _ (fun t ht => hx t (by simp [Slots.items, ht])) hr u hu

theorem emitRepeat_inv (hP : FillInv P) {child : Tmpl → FillSt → Option (Tmpl × FillSt)}
    (hc : ∀ t st t' st', P t → child t st = some (t', st') → P t') (multiple : Bool)
    (pre : Slots) (hx : ∀ t ∈ pre.items, P t) (outer : List Nat) :
    ∀ (reps j count : Nat) (a : List GoVal) (c : Nat),
      emitRepeat child multiple pre outer reps j count = some (a, c) → ∀ u, GoVal.item u ∈ a → P u
  | 0 => fun j count a c h u hu => by
    simp only [emitRepeat, Option.some.injEq, Prod.mk.injEq] at h
    simp [← h.1] at hu
  | reps + 1 => fun j count a c h u hu => by
    simp only [emitRepeat] at h
    split at h
    · cases h
    · rename_i a1 st1 he
      simp only [Option.map_eq_some_iff, Prod.exists, Prod.mk.injEq] at h
      obtain ⟨b, c', hr, rfl, rfl⟩ := h
      rcases List.mem_append.mp hu with hu | hu
      · exact emitSlots_inv hP hc multiple pre _ a1 st1 hx he u hu
      · exact emitRepeat_inv hP hc multiple pre hx outer reps (j + 1) st1.count b _ hr u hu

theorem fillEllT_inv (hP : FillInv P) : ∀ (fuel : Nat) (ev : Env) (multiple : Bool) (t : Tmpl) (st : FillSt) (t' : Tmpl)
    (st' : FillSt), P t → fillEllT fuel ev multiple t st = some (t', st') → P t'
  | 0 => fun _ _ _ _ _ _ _ h => by simp [fillEllT] at h
  | fuel + 1 => fun ev multiple t st t' st' ht h => by
    have hc := fillEllT_inv hP fuel ev multiple
    cases t with
    | list xs =>
      have hx := hP.items ht
      have htake := fun p t h => hx t (Slots.items_take p xs t h)
      have hdrop := fun p t h => hx t (Slots.items_drop p xs t h)
      simp only [fillEllT] at h
      split at h
      · cases h
      · rename_i a st2 hargs
        simp only [Option.map_eq_some_iff, Prod.mk.injEq] at h
        obtain ⟨tl, hm, rfl, rfl⟩ := h
        refine hP.mkList hm fun u hu => ?_
        -- the arguments, according to the branch that produces them
        split at hargs
        · exact emitSlots_inv hP hc multiple xs st a _ hx hargs u hu
        · rename_i p n _
          split at hargs
          · cases hargs
          · split at hargs <;> split at hargs <;> first | cases hargs | skip
            all_goals
              rename_i a1 _ h1
              simp only [Option.map_eq_some_iff, Prod.exists, Prod.mk.injEq] at hargs
              obtain ⟨b, s, h2, rfl, rfl⟩ := hargs
              rcases List.mem_append.mp hu with hu | hu
            · exact emitSlots_inv hP hc multiple _ _ a1 _ (htake p) h1 u hu
            · exact emitSlots_inv hP hc multiple _ _ b _ (hdrop (p + 1)) h2 u hu
            · exact emitRepeat_inv hP hc multiple _ (htake p) _ _ _ _ a1 _ h1 u hu
            · exact emitSlots_inv hP hc multiple _ _ b _ (hdrop (p + 1)) h2 u hu
        · cases hargs
    | _ => cases h; exact ht

theorem Env.mem_of_get? : ∀ (env : Env) (n : Name) (v : GoVal), env.get? n = some v → (n, v) ∈ env
  | [] => fun _ _ h => by simp [Env.get?] at h
  | (k, w) :: r => fun n v h => by
    simp only [Env.get?] at h
    split at h
    · rename_i hk
      cases h
      simp [eq_of_beq hk]
    · exact List.mem_cons_of_mem _ (Env.mem_of_get? r n v h)

theorem fillSlots_inv {child : Tmpl → Option Tmpl} (hc : ∀ t t', P t → child t = some t' → P t')
    (ov : Env) (hov : ∀ n u, (n, GoVal.item u) ∈ ov → P u) :
    ∀ (xs : Slots) (a : List GoVal), (∀ t ∈ xs.items, P t) → fillSlots child ov xs = some a →
      ∀ u, GoVal.item u ∈ a → P u
  | .nil => fun a _ h u hu => by
    simp only [fillSlots, Option.some.injEq] at h
    simp [← h] at hu
  | .var n r => fun a hx h u hu => by
    simp only [fillSlots, Option.map_eq_some_iff] at h
    obtain ⟨b, hr, rfl⟩ := h
    rcases List.mem_cons.mp hu with hg | hu
    · split at hg
      · rename_i v hv
        exact hov n u (hg ▸ Env.mem_of_get? ov n v hv)
      · cases hg
    · exact fillSlots_inv hc ov hov r b hx hr u hu
  | .item t r => fun a hx h u hu => by
    simp only [fillSlots] at h
    split at h
    · rename_i t' b hct hrb
      cases h
      rcases List.mem_cons.mp hu with hg | hu
      · cases hg
        exact hc t _ (hx t (by simp [Slots.items])) hct
      · exact fillSlots_inv hc ov hov r b (fun t ht => hx t (by simp [Slots.items, ht])) hrb u hu
    · cases h

/-- **FillVariables keeps every invariant of its producers**: any tree, any depth, any number of
(nested) ellipses, any table whose fill-in items satisfy it -/
theorem fill_inv (hP : FillInv P) : ∀ (fuel : Nat) (t : Tmpl) (env : Env) (t' : Tmpl), P t →
    (∀ n u, (n, GoVal.item u) ∈ env → P u) → fill fuel t env = some t' → P t'
  | 0 => fun _ _ _ _ _ h => by simp [fill] at h
  | fuel + 1 => fun t env t' ht henv h => by
    cases t with
    | list xs =>
      simp only [fill] at h
      split at h
      · cases h
      · rename_i toFill remaining _
        split at h
        · rename_i ys hfilled
          have hys : P (.list ys) := by
            split at hfilled
            · simp only [Option.map_eq_some_iff, Prod.exists, exists_and_right, exists_eq_right] at hfilled
              obtain ⟨sq, hf⟩ := hfilled
              exact fillEllT_inv hP _ _ _ _ _ _ _ ht hf
            · cases hfilled; exact ht
          have hov : ∀ n u, (n, GoVal.item u) ∈ env.filter (fun kv => !isEllKey kv) → P u :=
            fun n u h => henv n u (List.mem_filter.mp h).1
          split at h
          · cases h
          · rename_i a hfs
            exact hP.mkList h (fillSlots_inv (fun t t' ht h => fill_inv hP fuel t _ t' ht hov h) _ hov ys a (hP.items hys) hfs)
        · cases h
    | _ =>
      simp only [fill] at h
      exact hP.fillLeaf ht h

end

theorem wfSAll_iff : ∀ xs : Slots, xs.wfSAll = true ↔ ∀ t ∈ xs.items, t.wfS = true
  | .nil => by simp [Slots.wfSAll, Slots.items]
  | .item t r => by simp [Slots.wfSAll, Slots.items, wfSAll_iff r]
  | .var _ r => by simp [Slots.wfSAll, Slots.items, wfSAll_iff r]

/-- the items among the arguments of a list factory are `wfS` -/
def itemsWfS : List GoVal → Bool
  | [] => true
  | .item t :: r => t.wfS && itemsWfS r
  | _ :: r => itemsWfS r

theorem itemsWfS_iff (a : List GoVal) : itemsWfS a = true ↔ ∀ u, GoVal.item u ∈ a → u.wfS = true := by
  fun_induction itemsWfS a
  · simp
  · simp [*, or_imp, forall_and]
  · rename_i h ih
    rw [ih]
    exact ⟨fun hr u hm => (List.mem_cons.mp hm).elim (fun e => (h u e.symm).elim) (hr u),
      fun hr u hm => hr u (List.mem_cons_of_mem _ hm)⟩

theorem itemsWfS_append (a b : List GoVal) : itemsWfS (a ++ b) = (itemsWfS a && itemsWfS b) := by
  induction a with
  | nil => simp [itemsWfS]
  | cons g r ih => cases g <;> simp [itemsWfS, ih, Bool.and_assoc]

/-- the fill-in items of a table are well formed -/
def Env.itemsWfS : Env → Bool
  | [] => true
  | (_, .item t) :: r => t.wfS && Env.itemsWfS r
  | _ :: r => Env.itemsWfS r

theorem Env.itemsWfS_iff (env : Env) : env.itemsWfS = true ↔ ∀ n u, (n, GoVal.item u) ∈ env → u.wfS = true := by
  fun_induction Env.itemsWfS env
  · simp
  · simp [*, or_imp, forall_and]
  · rename_i h ih
    rw [ih]
    exact ⟨fun hr n u hm => (List.mem_cons.mp hm).elim (fun e => (h n u e.symm).elim) (hr n u),
      fun hr n u hm => hr n u (List.mem_cons_of_mem _ hm)⟩

theorem mkList_wfS (args : List GoVal) (t : Tmpl) (h : mkList args = some t) (hi : itemsWfS args = true) :
    t.wfS = true := by
  obtain ⟨xs, hs, hlen, hown, hnd, rfl⟩ := mkList_eq_some.mp h
  have hall : xs.wfSAll = true :=
    (wfSAll_iff xs).mpr fun u hu => (itemsWfS_iff args).mp hi u ((mkListSlots_items args xs hs u).mp hu)
  simp only [Tmpl.wfS, hall, hown, hnd, Bool.and_true, decide_eq_true_eq]
  exact hlen

/-- a one-node fill hands back the node itself, or what the factory of its kind makes of the
substituted slots -/
theorem fillLeaf_cases {t t' : Tmpl} {e : Env} : fillLeaf t e = some t' →
    t' = t ∨ (∃ s, mkAscii s = some t') ∨ (∃ a, mkBinary a = some t') ∨ (∃ a, mkBoolean a = some t') ∨
      (∃ w a, mkInt w a = some t') ∨ (∃ w a, mkUint w a = some t') ∨
      (∃ w xs a, t = .float w xs ∧ mkFloat w a = some t') := by
  fun_cases fillLeaf t e <;> intro h
  case case5 => exact .inr (.inl ⟨_, h⟩)
  case case7 => exact .inr (.inr (.inl ⟨_, h⟩))
  case case9 => exact .inr (.inr (.inr (.inl ⟨_, h⟩)))
  case case11 => exact .inr (.inr (.inr (.inr (.inl ⟨_, _, h⟩))))
  case case13 => exact .inr (.inr (.inr (.inr (.inr (.inl ⟨_, _, h⟩)))))
  case case15 => exact .inr (.inr (.inr (.inr (.inr (.inr ⟨_, _, _, rfl, h⟩)))))
  -- the other branches return the node as it is, or refuse
  all_goals first | exact .inl (Option.some.inj h).symm | cases h

theorem fillLeaf_wfS (t t' : Tmpl) (env : Env) (hw : t.wfS = true) (h : fillLeaf t env = some t') : t'.wfS = true := by
  rcases fillLeaf_cases h with rfl | ⟨_, h⟩ | ⟨_, h⟩ | ⟨_, h⟩ | ⟨_, _, h⟩ | ⟨_, _, h⟩ | ⟨_, _, _, _, h⟩
  · exact hw
  · exact mkAscii_wfS _ _ h
  · exact mkBinary_wfS _ _ h
  · exact mkBoolean_wfS _ _ h
  · exact mkInt_wfS _ _ _ h
  · exact mkUint_wfS _ _ _ h
  · exact mkFloat_wfS _ _ _ h

theorem wfS_inv : FillInv (fun t => t.wfS = true) where
  items h := by
    simp only [Tmpl.wfS, Bool.and_eq_true] at h
    exact (wfSAll_iff _).mp h.1.1.2
  mkList h ha := mkList_wfS _ _ h ((itemsWfS_iff _).mpr ha)
  mkAsciiVar h := mkAsciiVar_wfS _ _ _ _ h
  fillLeaf ht h := fillLeaf_wfS _ _ _ ht h

/-- a child filler that keeps well-formedness -/
def ChildOk (child : Tmpl → FillSt → Option (Tmpl × FillSt)) : Prop :=
  ∀ t st t' st', t.wfS = true → child t st = some (t', st') → t'.wfS = true

theorem emitSlots_wfS (child : Tmpl → FillSt → Option (Tmpl × FillSt)) (hc : ChildOk child) (multiple : Bool) :
    ∀ (xs : Slots) (st : FillSt) (a : List GoVal) (st' : FillSt), xs.wfSAll = true →
      emitSlots child multiple xs st = some (a, st') → itemsWfS a = true :=
  fun xs st a st' hw h => (itemsWfS_iff a).mpr (emitSlots_inv wfS_inv hc multiple xs st a st' ((wfSAll_iff xs).mp hw) h)

theorem emitRepeat_wfS (child : Tmpl → FillSt → Option (Tmpl × FillSt)) (hc : ChildOk child) (multiple : Bool)
    (pre : Slots) (hw : pre.wfSAll = true) (outer : List Nat) :
    ∀ (reps j count : Nat) (a : List GoVal) (c : Nat),
      emitRepeat child multiple pre outer reps j count = some (a, c) → itemsWfS a = true :=
  fun reps j count a c h =>
    (itemsWfS_iff a).mpr (emitRepeat_inv wfS_inv hc multiple pre ((wfSAll_iff pre).mp hw) outer reps j count a c h)

/-- **ellipsis expansion keeps well-formedness**, at any nesting depth -/
theorem fillEllT_wfS : ∀ (fuel : Nat) (ev : Env) (multiple : Bool) (t : Tmpl) (st : FillSt) (t' : Tmpl) (st' : FillSt),
    t.wfS = true → fillEllT fuel ev multiple t st = some (t', st') → t'.wfS = true :=
  fillEllT_inv wfS_inv

/-- **FillVariables keeps well-formedness**: any tree, any depth, any number of (nested)
ellipses, any table whose fill-in items are well formed -/
theorem fill_wfS : ∀ (fuel : Nat) (t : Tmpl) (env : Env) (t' : Tmpl), t.wfS = true → env.itemsWfS = true →
    fill fuel t env = some t' → t'.wfS = true :=
  fun fuel t env t' hw henv h => fill_inv wfS_inv fuel t env t' hw ((Env.itemsWfS_iff env).mp henv) h

/-- a table without fill-in items (repeat counts, numbers, strings, booleans) needs no hypothesis -/
theorem Env.itemsWfS_of_no_items : ∀ (env : Env), (∀ kv ∈ env, ∀ t, kv.2 ≠ GoVal.item t) → Env.itemsWfS env = true :=
  fun env h => (Env.itemsWfS_iff env).mpr fun _ u hm => absurd rfl (h _ hm u)

theorem Tmpl.fill_wfS (t t' : Tmpl) (env : Env) (hw : t.wfS = true) (henv : env.itemsWfS = true)
    (h : t.fill env = some t') : t'.wfS = true := Secs.fill_wfS _ t env t' hw henv h

theorem Msg.fill_eq_some {m m' : Msg} {e : Env} : m.fill e = some m' ↔
    ∃ it, m.item.fill e = some it ∧ ({ m with item := it } : Msg).valid = true ∧ { m with item := it } = m' := by
  simp only [Msg.fill, Option.bind_eq_some_iff, checked_eq_some]

/-- after any fill and any expansion no variable name occurs twice anywhere in the tree -/
theorem fill_names_unique (t t' : Tmpl) (env : Env) (hw : t.wfS = true) (henv : env.itemsWfS = true)
    (h : t.fill env = some t') : nodupNames t'.vars = true :=
  wfS_vars_nodup t' (t.fill_wfS t' env hw henv h)

/-! Float-freeness is preserved by every producer too, so for trees without F4/F8 items fills keep
the full `Tmpl.wf`, values in range included (`Tmpl.fill_wf`). -/

theorem floatFreeAll_iff : ∀ xs : Slots, xs.floatFreeAll = true ↔ ∀ t ∈ xs.items, t.floatFree = true
  | .nil => by simp [Slots.floatFreeAll, Slots.items]
  | .item t r => by simp [Slots.floatFreeAll, Slots.items, floatFreeAll_iff r]
  | .var _ r => by simp [Slots.floatFreeAll, Slots.items, floatFreeAll_iff r]

/-- the fill-in items of a table are float-free -/
def Env.itemsFF : Env → Bool
  | [] => true
  | (_, .item t) :: r => t.floatFree && Env.itemsFF r
  | _ :: r => Env.itemsFF r

theorem Env.itemsFF_iff (env : Env) : env.itemsFF = true ↔ ∀ n u, (n, GoVal.item u) ∈ env → u.floatFree = true := by
  fun_induction Env.itemsFF env
  · simp
  · simp [*, or_imp, forall_and]
  · rename_i h ih
    rw [ih]
    exact ⟨fun hr n u hm => (List.mem_cons.mp hm).elim (fun e => (h n u e.symm).elim) (hr n u),
      fun hr n u hm => hr n u (List.mem_cons_of_mem _ hm)⟩

/-- a one-node fill of a float-free node calls no float factory -/
theorem fillLeaf_ff (t t' : Tmpl) (env : Env) (hw : t.floatFree = true) (h : fillLeaf t env = some t') : t'.floatFree = true := by
  rcases fillLeaf_cases h with rfl | ⟨_, h⟩ | ⟨_, h⟩ | ⟨_, h⟩ | ⟨_, _, h⟩ | ⟨_, _, h⟩ | ⟨_, _, _, rfl, _⟩
  · exact hw
  · obtain ⟨_, rfl⟩ := mkAscii_eq_some.mp h; rfl
  · obtain ⟨_, _, _, rfl⟩ := mkBinary_eq_some.mp h; rfl
  · obtain ⟨_, _, _, rfl⟩ := mkBoolean_eq_some.mp h; rfl
  · obtain ⟨_, _, _, rfl⟩ := mkInt_eq_some.mp h; rfl
  · obtain ⟨_, _, _, rfl⟩ := mkUint_eq_some.mp h; rfl
  · cases hw

theorem ff_inv : FillInv (fun t => t.floatFree = true) where
  items h := (floatFreeAll_iff _).mp h
  mkList h ha := by
    obtain ⟨xs, hs, _, _, _, rfl⟩ := mkList_eq_some.mp h
    exact (floatFreeAll_iff xs).mpr fun u hu => ha u ((mkListSlots_items _ xs hs u).mp hu)
  mkAsciiVar h := by obtain ⟨_, rfl⟩ := mkAsciiVar_eq_some.mp h; rfl
  fillLeaf ht h := fillLeaf_ff _ _ _ ht h

/-- a table without fill-in items (repeat counts, numbers, strings, booleans) needs no hypothesis -/
theorem Env.itemsFF_of_no_items : ∀ (env : Env), (∀ kv ∈ env, ∀ t, kv.2 ≠ GoVal.item t) → Env.itemsFF env = true :=
  fun env h => (Env.itemsFF_iff env).mpr fun _ u hm => absurd rfl (h _ hm u)

theorem Tmpl.fill_ff (t t' : Tmpl) (env : Env) (hw : t.floatFree = true) (henv : env.itemsFF = true)
    (h : t.fill env = some t') : t'.floatFree = true :=
  fill_inv ff_inv _ t env t' hw ((Env.itemsFF_iff env).mp henv) h

/-- **for float-free trees FillVariables keeps the full well-formedness `wf`** (values in range
included): any depth, any number of nested ellipses, any table of float-free well-formed items -/
theorem Tmpl.fill_wf (t t' : Tmpl) (env : Env) (hw : t.wf = true) (hf : t.floatFree = true)
    (henv : Env.itemsWfS env = true) (henvf : Env.itemsFF env = true) (h : t.fill env = some t') :
    t'.wf = true ∧ t'.floatFree = true :=
  ⟨wf_of_wfS t' (t.fill_wfS t' env (wfS_of_wf t hw) henv h) (t.fill_ff t' env hf henvf h), t.fill_ff t' env hf henvf h⟩

end Secs
