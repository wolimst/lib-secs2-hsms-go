/-
Naturality of the SML parser model in token positions and diagnostics already collected.

`Reloc` moves every token position through a map `π` (fixing the dummy position 0,0) and puts
fixed lists `E`, `W` underneath the diagnostics. Every parser function commutes with it: the
messages built, the tokens consumed, the names and counters are the same, and the diagnostics
are the same ones moved by `π` on top of `E`, `W`. Instances: erasing positions (layout cannot
influence what is parsed), shifting positions (diagnostics move with the tokens), non-empty
`E`, `W` with the identity map (diagnostics already collected do not influence what follows).
-/
import SecsModel.Proofs.ParserState
namespace Secs
namespace Sml
open Lex

structure Reloc where
  π : Nat → Nat → Nat × Nat
  E : List Diag
  W : List Diag
  fix0 : π 0 0 = (0, 0)

namespace Reloc
variable (ρ : Reloc)

def tok (t : Tok) : Tok := { t with line := (ρ.π t.line t.col).1, col := (ρ.π t.line t.col).2 }
def diag (d : Diag) : Diag := { d with line := (ρ.π d.line d.col).1, col := (ρ.π d.line d.col).2 }
def ps (s : PS) : PS :=
  { toks := s.toks.map ρ.tok, errs := s.errs.map ρ.diag ++ ρ.E, warns := s.warns.map ρ.diag ++ ρ.W,
    names := s.names, ell := s.ell, skipSize := s.skipSize }

@[simp] theorem tok_kind (t : Tok) : (ρ.tok t).kind = t.kind := rfl
@[simp] theorem tok_val (t : Tok) : (ρ.tok t).val = t.val := rfl
@[simp] theorem tok_err (t : Tok) : (ρ.tok t).err = t.err := rfl
@[simp] theorem ps_names (s : PS) : (ρ.ps s).names = s.names := rfl
@[simp] theorem ps_ell (s : PS) : (ρ.ps s).ell = s.ell := rfl
@[simp] theorem ps_skip (s : PS) : (ρ.ps s).skipSize = s.skipSize := rfl
@[simp] theorem ps_toks (s : PS) : (ρ.ps s).toks = s.toks.map ρ.tok := rfl
@[simp] theorem ps_toks_length (s : PS) : (ρ.ps s).toks.length = s.toks.length := by simp

@[simp] theorem tok_eofClosed : ρ.tok eofClosed = eofClosed := by
  simp [tok, eofClosed, ρ.fix0]

@[simp] theorem tok_dummy : ρ.tok dummyTok = dummyTok := by
  simp [tok, dummyTok, ρ.fix0]

@[simp] theorem ps_peek (s : PS) : (ρ.ps s).peek = ρ.tok s.peek := by
  unfold PS.peek
  cases h : s.toks <;> simp [h]

@[simp] theorem ps_pop (s : PS) : (ρ.ps s).pop = ρ.ps s.pop := by
  simp [PS.pop, ps]

@[simp] theorem ps_err (s : PS) (t : Tok) (k : String) : (ρ.ps s).err (ρ.tok t) k = ρ.ps (s.err t k) := by
  simp [PS.err, ps, tok, diag]

@[simp] theorem ps_warn (s : PS) (t : Tok) (k : String) : (ρ.ps s).warn (ρ.tok t) k = ρ.ps (s.warn t k) := by
  simp [PS.warn, ps, tok, diag]

@[simp] theorem ps_clearSkip (s : PS) : (ρ.ps s).clearSkip = ρ.ps s.clearSkip := rfl
@[simp] theorem ps_addName (s : PS) (n : Name) : (ρ.ps s).addName n = ρ.ps (s.addName n) := rfl
@[simp] theorem ps_bumpEll (s : PS) : (ρ.ps s).bumpEll = ρ.ps s.bumpEll := rfl
@[simp] theorem ps_resetScope (s : PS) : (ρ.ps s).resetScope = ρ.ps s.resetScope := rfl
@[simp] theorem ps_set_names (s : PS) (n : List Name) : { ρ.ps s with names := n } = ρ.ps { s with names := n } := rfl
@[simp] theorem ps_set_ell (s : PS) (n : Nat) : { ρ.ps s with ell := n } = ρ.ps { s with ell := n } := rfl
@[simp] theorem ps_set_skip (s : PS) (b : Bool) : { ρ.ps s with skipSize := b } = ρ.ps { s with skipSize := b } := rfl
@[simp] theorem ps_set_names_ell (s : PS) (n : List Name) (e : Nat) :
    { ρ.ps s with names := n, ell := e } = ρ.ps { s with names := n, ell := e } := rfl

theorem hom : PSHom ρ.ps ρ.tok :=
  ⟨ρ.tok_kind, ρ.tok_val, ρ.tok_err, ρ.ps_names, ρ.ps_err, ρ.ps_set_names, ρ.ps_set_skip⟩

-- patterns on the analysed argument only, the rest by `fun`: a pattern over all arguments builds a matcher over each
theorem valueTokens_nat : ∀ (fuel : Nat) (s : PS),
    valueTokens fuel (ρ.ps s) = ((valueTokens fuel s).1.map ρ.tok, ρ.ps (valueTokens fuel s).2)
  | 0 => fun s => rfl
  | fuel + 1 => fun s => by
    unfold valueTokens
    simp only [ps_peek, tok_kind, ps_pop, valueTokens_nat fuel]
    split <;> rfl

theorem sizeDecl_nat (s : PS) :
    sizeDecl (ρ.ps s) = (ρ.tok (sizeDecl s).1, (sizeDecl s).2.1, (sizeDecl s).2.2.1, ρ.ps (sizeDecl s).2.2.2) := by
  unfold sizeDecl
  simp only [ps_peek, tok_kind, tok_val, ps_pop]
  split <;> simp

theorem asciiItem_nat (lo hi : Int) (s : PS) :
    asciiItem lo hi (ρ.ps s) = ((asciiItem lo hi s).1, ρ.ps (asciiItem lo hi s).2) := by
  unfold asciiItem
  simp only [ps_toks_length, valueTokens_nat, List.length_map, ρ.hom.asciiLoop]

theorem arrayItem_nat (ty : Bytes) (s : PS) :
    arrayItem ty (ρ.ps s) = ((arrayItem ty s).1, ρ.ps (arrayItem ty s).2) := by
  unfold arrayItem
  simp only [ps_toks_length, valueTokens_nat, ρ.hom.arrayArgs]
  cases h : arrayArgs ty (widthOfType ty) (valueTokens (s.toks.length + 1) s).1 (valueTokens (s.toks.length + 1) s).2 with
  | mk o s2 => cases o <;> simp

theorem closeTail_nat (item : Tmpl) (s : PS) :
    closeTail item (ρ.ps s) = ((closeTail item s).1, ρ.ps (closeTail item s).2) := by
  unfold closeTail
  simp only [ps_clearSkip, ps_peek, tok_kind, ps_err, ps_pop]
  split <;> rfl

theorem closeItem_nat (sizeTok : Tok) (lo hi : Int) (res : R Tmpl) (s : PS) :
    closeItem (ρ.tok sizeTok) lo hi res (ρ.ps s) =
      ((closeItem sizeTok lo hi res s).1, ρ.ps (closeItem sizeTok lo hi res s).2) := by
  unfold closeItem
  cases res with
  | stop => rfl
  | panic => rfl
  | ok item =>
    simp only [ps_skip]
    split <;> rename_i hc <;> simp only [hc, ↓reduceIte, Bool.false_eq_true, ps_err, closeTail_nat]

theorem recoverItem_nat (lab : Tok) (r : R Tmpl) (s : PS) :
    recoverItem (ρ.tok lab) (r, ρ.ps s) = ((recoverItem lab (r, s)).1, ρ.ps (recoverItem lab (r, s)).2) := by
  unfold recoverItem
  cases r <;> simp

theorem itemBody_nat (ll ll' : PS → R Tmpl × PS)
    (hll : ∀ s, ll' (ρ.ps s) = ((ll s).1, ρ.ps (ll s).2)) (s : PS) :
    itemBody ll' (ρ.ps s) = ((itemBody ll s).1, ρ.ps (itemBody ll s).2) := by
  -- the tests decided beforehand and not by `split`, which abstracts the large body of `itemBody` each time
  by_cases hty : (s.peek.kind != .itemType) = true
  · unfold itemBody
    simp only [ps_peek, tok_kind, ps_err, if_pos hty]
  · by_cases hpk : (s.pop.peek.kind != .itemSize && s.pop.peek.kind == .error) = true
    · unfold itemBody
      simp only [ps_peek, tok_kind, tok_err, ps_pop, ps_err, if_neg hty, if_pos hpk]
    · unfold itemBody
      simp only [ps_peek, tok_kind, tok_val, ps_pop, if_neg hty, if_neg hpk, sizeDecl_nat]
      by_cases hL : (s.peek.val == [76]) = true
      · simp only [if_pos hL, hll, closeItem_nat]
      · by_cases hA : (s.peek.val == [65]) = true
        · simp only [if_neg hL, if_pos hA, asciiItem_nat, closeItem_nat]
        · simp only [if_neg hL, if_neg hA, arrayItem_nat, closeItem_nat]

theorem parseItem_nat : ∀ fuel : Nat,
    (∀ s : PS, parseItemF fuel (ρ.ps s) = ((parseItemF fuel s).1, ρ.ps (parseItemF fuel s).2)) ∧
    (∀ (count : Nat) (acc : List GoVal) (s : PS), parseItemF.listLoop fuel count acc (ρ.ps s) =
        ((parseItemF.listLoop fuel count acc s).1, ρ.ps (parseItemF.listLoop fuel count acc s).2))
  | 0 => ⟨fun s => rfl, fun c a s => rfl⟩
  | fuel + 1 => by
    have ih := parseItem_nat fuel
    constructor
    · intro s
      unfold parseItemF
      simp only [ps_peek, tok_kind, ps_pop, ps_err]
      split
      · rfl
      · rw [itemBody_nat ρ _ _ (ih.2 0 []) s.pop]
        exact recoverItem_nat ρ s.peek _ _
    · intro count acc s
      unfold parseItemF.listLoop
      simp only [ps_peek, tok_kind, tok_val, tok_err, ps_pop, ps_err, ps_names, ps_ell, ps_addName, ps_bumpEll, ps_warn]
      split
      · rw [ih.1 s]
        rcases parseItemF fuel s with ⟨_ | _ | _, s1⟩ <;> simp only [ih.2]
      · split <;> simp only [ih.2]
      · split
        · rfl
        · split <;> simp only [ih.2]
      · rfl
      · rfl
      · rfl

theorem waitBitOf_nat (fn : Int) (s : PS) :
    waitBitOf fn (ρ.ps s) = ((waitBitOf fn s).1, ρ.ps (waitBitOf fn s).2) := by
  unfold waitBitOf
  simp only [ps_peek, tok_kind, tok_val, ps_pop, ps_err]
  split
  · split
    · split <;> rfl
    · rfl
  · rfl

theorem directionOf_nat (s : PS) : directionOf (ρ.ps s) = ((directionOf s).1, ρ.ps (directionOf s).2) := by
  unfold directionOf
  simp only [ps_peek, tok_kind, tok_val, ps_pop, ps_warn]
  split <;> rfl

theorem nameOf_nat (s : PS) : nameOf (ρ.ps s) = ((nameOf s).1, ρ.ps (nameOf s).2) := by
  unfold nameOf
  simp only [ps_peek, tok_kind, tok_val, ps_pop]
  split <;> rfl

theorem msgItem_nat (s : PS) : msgItem (ρ.ps s) = ((msgItem s).1, ρ.ps (msgItem s).2) := by
  unfold msgItem
  simp only [ps_peek, tok_kind, ps_err, ps_toks_length, (parseItem_nat ρ _).1]
  split
  · rfl
  · split <;> rfl

theorem finishMsg_nat (name : Bytes) (st fn wb : Int) (dir : Bytes) (item : R Tmpl) (s : PS) :
    finishMsg name st fn wb dir item (ρ.ps s) =
      ((finishMsg name st fn wb dir item s).1, ρ.ps (finishMsg name st fn wb dir item s).2) := by
  unfold finishMsg
  cases item with
  | stop => rfl
  | panic => rfl
  | ok it =>
    simp only [ps_peek, tok_kind, ps_err, ps_pop]
    split
    · rfl
    · cases mkMsg name st fn wb dir it <;> rfl

theorem parseMessage_nat (s : PS) :
    parseMessage (ρ.ps s) = ((parseMessage s).1, ρ.ps (parseMessage s).2) := by
  unfold parseMessage
  simp only [ps_resetScope, ps_peek, tok_kind, ps_err, ps_pop, ρ.hom.streamFunction, waitBitOf_nat,
    directionOf_nat, nameOf_nat, msgItem_nat, finishMsg_nat]
  split <;> rfl

theorem parseLoop_nat : ∀ (fuel : Nat) (s : PS) (acc : List Msg),
    parseLoop fuel (ρ.ps s) acc = (parseLoop fuel s acc).map (fun r => (r.1, ρ.ps r.2))
  | 0 => fun s acc => by simp [parseLoop]
  | fuel + 1 => fun s acc => by
    unfold parseLoop
    simp only [ps_peek, tok_kind, parseMessage_nat]
    split
    · rfl
    · rcases parseMessage s with ⟨_ | _ | m, s1⟩
      · rfl
      · rfl
      · exact parseLoop_nat fuel s1 _

end Reloc
end Sml
end Secs

namespace Secs
namespace Sml
open Lex

/-- an outcome with every diagnostic moved through `ρ` -/
def Outcome.reloc (ρ : Reloc) : Outcome → Outcome
  | .done ms es ws => .done ms (es.map ρ.diag) (ws.map ρ.diag)
  | .panic => .panic

theorem parseToks_nat (ρ : Reloc) (hE : ρ.E = []) (hW : ρ.W = []) (toks : List Tok) :
    parseToks (toks.map ρ.tok) = (parseToks toks).reloc ρ := by
  have hi : ρ.ps { toks := toks } = { toks := toks.map ρ.tok } := by simp [Reloc.ps, hE, hW]
  unfold parseToks
  rw [← hi, List.length_map, ρ.parseLoop_nat]
  cases h : parseLoop (toks.length + 1) { toks := toks } [] with
  | none => rfl
  | some r =>
    simp only [Option.map_some, Reloc.ps, hE, hW, List.append_nil, List.isEmpty_map]
    split <;> simp [Outcome.reloc, List.map_reverse]

def eraseTok (t : Tok) : Tok := { t with line := 0, col := 0 }
def eraseDiag (d : Diag) : Diag := { d with line := 0, col := 0 }
def eraser : Reloc := { π := fun _ _ => (0, 0), E := [], W := [], fix0 := rfl }

theorem eraser_tok (t : Tok) : eraser.tok t = eraseTok t := rfl
theorem eraser_diag (d : Diag) : eraser.diag d = eraseDiag d := rfl

/-- what an outcome says apart from positions: messages, error texts, warning texts -/
def Outcome.content : Outcome → Option (List Msg × List String × List String)
  | .done ms es ws => some (ms, es.map (·.kind), ws.map (·.kind))
  | .panic => none

theorem content_reloc (ρ : Reloc) (o : Outcome) : (o.reloc ρ).content = o.content := by
  cases o <;> simp [Outcome.reloc, Outcome.content, Reloc.diag, Function.comp_def]

/-- Layout cannot influence what is parsed: two token streams that differ only in the positions
stamped on the tokens give the same messages and the same diagnostic texts in the same order. -/
theorem positions_irrelevant (t1 t2 : List Tok) (h : t1.map eraseTok = t2.map eraseTok) :
    (parseToks t1).content = (parseToks t2).content := by
  rw [← content_reloc eraser (parseToks t1), ← content_reloc eraser (parseToks t2),
    ← parseToks_nat eraser rfl rfl, ← parseToks_nat eraser rfl rfl]
  exact congrArg (fun l => (parseToks l).content) h

/-- `positions_irrelevant` behind a filter that does not look at positions (the uses drop the comment tokens) -/
theorem content_of_filter_erased (p : Tok → Bool) (hp : ∀ t, p (eraseTok t) = p t) (t1 t2 : List Tok)
    (h : (t1.map eraseTok).filter p = (t2.map eraseTok).filter p) :
    (parseToks (t1.filter p)).content = (parseToks (t2.filter p)).content := by
  have e : ∀ l : List Tok, (l.filter p).map eraseTok = (l.map eraseTok).filter p := fun l => by
    rw [List.filter_map]
    exact congrArg (fun q => (l.filter q).map eraseTok) (funext fun t => (hp t).symm)
  apply positions_irrelevant
  rw [e, e, h]

/-- Diagnostics move exactly as the tokens they are stamped on: if the second stream is the
first with every position moved by `π` (a shift by inserted lines and columns, say), the
outcome is the first outcome with every diagnostic moved by `π`. -/
theorem diagnostics_move_with_tokens (π : Nat → Nat → Nat × Nat) (h0 : π 0 0 = (0, 0)) (toks : List Tok) :
    parseToks (toks.map (fun t => { t with line := (π t.line t.col).1, col := (π t.line t.col).2 })) =
      match parseToks toks with
      | .done ms es ws =>
        .done ms (es.map (fun d => { d with line := (π d.line d.col).1, col := (π d.line d.col).2 }))
          (ws.map (fun d => { d with line := (π d.line d.col).1, col := (π d.line d.col).2 }))
      | .panic => .panic := by
  have := parseToks_nat { π := π, E := [], W := [], fix0 := h0 } rfl rfl toks
  show parseToks (toks.map (Reloc.tok { π := π, E := [], W := [], fix0 := h0 })) = _
  rw [this]
  cases parseToks toks <;> rfl

theorem parseLoop_frame_both (E0 W0 : List Diag) (fuel : Nat) (s : PS) (acc : List Msg) :
    parseLoop fuel { s with errs := s.errs ++ E0, warns := s.warns ++ W0 } acc =
      (parseLoop fuel s acc).map (fun r => (r.1, { r.2 with errs := r.2.errs ++ E0, warns := r.2.warns ++ W0 })) := by
  -- relocation by the identity, on top of `E0`, `W0`
  let ρ : Reloc := { π := fun l c => (l, c), E := E0, W := W0, fix0 := rfl }
  have hps : ∀ s : PS, ρ.ps s = { s with errs := s.errs ++ E0, warns := s.warns ++ W0 } := fun s => by
    simp only [Reloc.ps, show ρ.tok = id from rfl, show ρ.diag = id from rfl, List.map_id]
    rfl
  rw [← hps, ρ.parseLoop_nat]
  simp only [hps]

/-- Diagnostics already collected do not influence what follows: running the message loop with
warnings `W0` already collected gives the same messages, tokens, names and counters, and the
same new diagnostics on top of `W0`. -/
theorem parseLoop_frame (W0 : List Diag) (fuel : Nat) (s : PS) (acc : List Msg) :
    parseLoop fuel { s with warns := s.warns ++ W0 } acc =
      (parseLoop fuel s acc).map (fun r => (r.1, { r.2 with warns := r.2.warns ++ W0 })) := by
  simpa only [List.append_nil] using parseLoop_frame_both [] W0 fuel s acc

end Sml
end Secs
