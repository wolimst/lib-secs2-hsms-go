/-
Leaf-level facts about FillVariables (one node, no nesting): unknown keys, the fill as a
factory call on the substituted slots, ASCII variables, rebuilding a node from its own slots.
The property statements built from them are in Props/C09.lean. Then `ArrayKind`, under which the
signed, unsigned, boolean and binary nodes share one proof of the same facts (`fillLeaf_eq`, `rebuild`).
-/
import SecsModel.Model.Fill
import SecsModel.Proofs.Factories
namespace Secs.FillLeaf
open Secs

theorem anyBound_eq_false {α} {env : Env} {xs : List (Slot α)} :
    anyBound env xs = false ↔ ∀ n ∈ slotVars xs, env.get? n = none := by
  simp only [anyBound, List.any_eq_false, Option.isSome_iff_ne_none, ne_eq, Decidable.not_not]

theorem fill_unknown_keys (t : Tmpl) (env : Env) (hl : t.isList = false)
    (h : ∀ n ∈ t.vars, env.get? n = none) : fillLeaf t env = some t := by
  cases t with
  | list xs => cases hl
  | ascii s => rfl
  | empty => rfl
  | asciiVar n a b => simp only [fillLeaf, h n (List.mem_singleton_self n)]
  | binary xs | boolean xs | int w xs | uint w xs | float w xs =>
    simp only [fillLeaf, anyBound_eq_false.mpr h, Bool.false_eq_true, if_false]

/-- substitution on one slot: a value stays (handed back to the factory with its own type), a
bound variable becomes the given value, an unbound variable stays a variable -/
def substSlot {α} (canon : α → GoVal) (env : Env) : Slot α → GoVal
  | .val a => canon a
  | .var n => (env.get? n).getD (.str n)

theorem fillArgs_eq_map {α} (canon : α → GoVal) (env : Env) (xs : List (Slot α)) :
    fillArgs canon env xs = xs.map (substSlot canon env) := by
  induction xs with
  | nil => rfl
  | cons x r ih =>
    cases x with
    | val a => simp [fillArgs, substSlot, ih]
    | var n => cases h : env.get? n <;> simp [fillArgs, substSlot, ih, h]

theorem fill_is_factory_on_substituted_slots (w : Nat) (env : Env) :
    (∀ xs, anyBound env xs = true → fillLeaf (.int w xs) env = mkInt w (xs.map (substSlot (.sint 64) env))) ∧
    (∀ xs, anyBound env xs = true → fillLeaf (.uint w xs) env = mkUint w (xs.map (substSlot (.uint 64) env))) ∧
    (∀ xs, anyBound env xs = true → fillLeaf (.boolean xs) env = mkBoolean (xs.map (substSlot .bool env))) ∧
    (∀ xs, anyBound env xs = true → fillLeaf (.binary xs) env = mkBinary (xs.map (substSlot (fun (v : Nat) => .sint 0 v) env))) := by
  refine ⟨?_, ?_, ?_, ?_⟩ <;> intro xs h <;> simp [fillLeaf, h, fillArgs_eq_map]

theorem fill_ascii_var (n : Name) (mn mx : Int) (env : Env) (s : Bytes) (h : env.get? n = some (.str s)) :
    fillLeaf (.asciiVar n mn mx) env =
      if (s.length : Int) < mn ∨ (mx ≠ -1 ∧ mx < s.length) then none else mkAscii s := by
  simp only [fillLeaf, h, Bool.and_eq_true, bne_iff_ne, ne_eq, decide_eq_true_eq]
  by_cases h1 : (s.length : Int) < mn <;> by_cases h2 : ¬mx = -1 ∧ mx < (s.length : Int) <;> simp [h1, h2]

theorem argOf_eq_subst {α} (canon : α → GoVal) (xs : List (Slot α)) :
    xs.map (Sml.argOf canon) = xs.map (substSlot canon []) :=
  List.map_congr_left fun x _ => by cases x <;> rfl

theorem rebuild_int (w : Nat) (xs : List (Slot Int)) (hw : (Tmpl.int w xs).wf = true) :
    mkInt w (xs.map (substSlot (.sint 64) [])) = some (.int w xs) := by
  rw [← argOf_eq_subst]; exact Sml.rebuild_int w xs hw

example : (fillLeaf (.int 2 [.val 5, .var [120], .var [121]]) [([120], .sint 8 (-3))]).map Tmpl.vars
    = some [[121]] := by decide

example : (fillLeaf (.int 1 [.var [120]]) [([120], .sint 0 300)]).isNone = true := by decide

end Secs.FillLeaf

namespace Secs
open Sml

theorem fillArgs_length {α} (canon : α → GoVal) (e : Env) (xs : List (Slot α)) :
    (fillArgs canon e xs).length = xs.length := by
  rw [FillLeaf.fillArgs_eq_map, List.length_map]

-- patterns on the analysed argument only, the rest by `fun`: a pattern over all arguments builds a matcher over each
theorem fillArgs_congr {α} (canon : α → GoVal) {e e' : Env} : ∀ (xs : List (Slot α)),
    (∀ n ∈ slotVars xs, e.get? n = e'.get? n) → fillArgs canon e xs = fillArgs canon e' xs
  | [] => fun _ => rfl
  | .val a :: r => fun h => by simp only [fillArgs, fillArgs_congr canon r h]
  | .var n :: r => fun h => by
    simp only [fillArgs, h n (List.mem_cons_self ..), fillArgs_congr canon r fun m hm => h m (List.mem_cons_of_mem _ hm)]

theorem fillArgs_unbound {α} (canon : α → GoVal) (e : Env) (xs : List (Slot α))
    (h : anyBound e xs = false) : fillArgs canon e xs = xs.map (Sml.argOf canon) := by
  rw [fillArgs_congr canon (e' := []) xs (FillLeaf.anyBound_eq_false.mp h), FillLeaf.fillArgs_eq_map, FillLeaf.argOf_eq_subst]

/-- An array node kind as its factory and FillVariables see it, so that the laws of a one-node fill
(`compose`, `vars`, `refuse`) are proved once for signed, unsigned, boolean and binary nodes. The
factory converts its arguments into slots over `β`, the node stores slots over `α`, embedded by
`lift`: the identity except for binary nodes, whose factory goes through `Option Int` (a refused
string is `none`) before it stores bytes. -/
structure ArrayKind (α β : Type) where
  node : List (Slot α) → Tmpl
  make : List GoVal → Option Tmpl
  conv : GoVal → Option β
  canon : β → GoVal
  lift : Slot α → Slot β
  inRange : α → Bool
  sizeOk : Nat → Bool
  lift_var : ∀ n, lift (.var n) = .var n
  lift_val : ∀ a, ∃ b, lift (.val a) = .val b ∧ conv (canon b) = some b
  conv_name : ∀ n, isValidVarName n = true → conv (.str n) = none
  mk_eq_some : ∀ {args t}, make args = some t ↔ ∃ xs, mkSlots conv args = some (xs.map lift) ∧ (node xs).wf = true ∧ node xs = t
  fillLeaf_node : ∀ xs e, fillLeaf (node xs) e = if anyBound e xs then make (fillArgs canon e (xs.map lift)) else some (node xs)
  wf_node : ∀ xs, (node xs).wf = (sizeOk xs.length && slotsOk inRange xs)
  vars_node : ∀ xs, (node xs).vars = slotVars xs
  isList_node : ∀ xs, (node xs).isList = false
  node_ne_empty : ∀ xs, node xs ≠ .empty

namespace ArrayKind
variable {α β : Type} (K : ArrayKind α β) {xs : List (Slot α)}

theorem slotVars_lift (l : List (Slot α)) : slotVars (l.map K.lift) = slotVars l :=
  slotVars_map K.lift K.lift_var (fun a => (K.lift_val a).imp fun _ h => h.1) l

theorem vals_lift (l : List (Slot α)) (b : β) (h : Slot.val b ∈ l.map K.lift) : K.conv (K.canon b) = some b := by
  obtain ⟨s, _, hs⟩ := List.mem_map.mp h
  cases s with
  | val a => obtain ⟨b', hb, hc⟩ := K.lift_val a; rw [hb] at hs; cases hs; exact hc
  | var n => rw [K.lift_var] at hs; cases hs

theorem names_lift (hw : (K.node xs).wf = true) (n : Name) (hn : Slot.var n ∈ xs.map K.lift) : K.conv (.str n) = none := by
  obtain ⟨s, hs, hl⟩ := List.mem_map.mp hn
  rw [K.wf_node, Bool.and_eq_true] at hw
  cases s with
  | val a => obtain ⟨b', hb, _⟩ := K.lift_val a; rw [hb] at hl; cases hl
  | var m => rw [K.lift_var] at hl; cases hl; exact K.conv_name n ((slotsOk_mem _ xs hw.2).2 n hs)

theorem mk_congr {A B : List GoVal} (h : mkSlots K.conv A = mkSlots K.conv B) : K.make A = K.make B :=
  Option.ext fun t => by rw [K.mk_eq_some, K.mk_eq_some, h]

theorem rebuild (hw : (K.node xs).wf = true) : K.make ((xs.map K.lift).map (argOf K.canon)) = some (K.node xs) :=
  K.mk_eq_some.mpr ⟨xs, rebuild_slots K.conv K.canon _ (K.vals_lift xs) (K.names_lift hw), hw, rfl⟩

theorem fillLeaf_eq (e : Env) (hw : (K.node xs).wf = true) :
    fillLeaf (K.node xs) e = K.make (fillArgs K.canon e (xs.map K.lift)) := by
  rw [K.fillLeaf_node]
  split
  · rfl
  · rename_i hb
    rw [fillArgs_unbound _ e _ (by simpa [anyBound, K.slotVars_lift] using hb), K.rebuild hw]

end ArrayKind

def intKind (w : Nat) : ArrayKind Int Int where
  node := .int w
  make := mkInt w
  conv := convInt
  canon := .sint 64
  lift := id
  inRange := intInRange w
  sizeOk n := validWidthInt w && decide (n * w ≤ maxByteSize)
  lift_var _ := rfl
  lift_val a := ⟨a, rfl, rfl⟩
  conv_name _ _ := rfl
  mk_eq_some := by simp only [List.map_id]; exact mkInt_eq_some
  fillLeaf_node xs e := by simp only [List.map_id]; rfl
  wf_node _ := rfl
  vars_node _ := rfl
  isList_node _ := rfl
  node_ne_empty _ := nofun

def uintKind (w : Nat) : ArrayKind Nat Nat where
  node := .uint w
  make := mkUint w
  conv := convUint
  canon := .uint 64
  lift := id
  inRange := uintInRange w
  sizeOk n := validWidthInt w && decide (n * w ≤ maxByteSize)
  lift_var _ := rfl
  lift_val a := ⟨a, rfl, rfl⟩
  conv_name _ _ := rfl
  mk_eq_some := by simp only [List.map_id]; exact mkUint_eq_some
  fillLeaf_node xs e := by simp only [List.map_id]; rfl
  wf_node _ := rfl
  vars_node _ := rfl
  isList_node _ := rfl
  node_ne_empty _ := nofun

def boolKind : ArrayKind Bool Bool where
  node := .boolean
  make := mkBoolean
  conv := convBool
  canon := .bool
  lift := id
  inRange _ := true
  sizeOk n := decide (n ≤ maxByteSize)
  lift_var _ := rfl
  lift_val a := ⟨a, rfl, rfl⟩
  conv_name _ _ := rfl
  mk_eq_some := by simp only [List.map_id]; exact mkBoolean_eq_some
  fillLeaf_node xs e := by simp only [List.map_id]; rfl
  wf_node _ := rfl
  vars_node _ := rfl
  isList_node _ := rfl
  node_ne_empty _ := nofun

def canonB : Option Int → GoVal
  | some v => .sint 0 v
  | none => .other

theorem fillArgs_liftB (e : Env) (xs : List (Slot Nat)) :
    fillArgs (fun (v : Nat) => GoVal.sint 0 v) e xs = fillArgs canonB e (xs.map liftB) := by
  induction xs with
  | nil => rfl
  | cons x r ih => cases x <;> simp [fillArgs, liftB, canonB, ih]

def binKind : ArrayKind Nat (Option Int) where
  node := .binary
  make := mkBinary
  conv := convBinary
  canon := canonB
  lift := liftB
  inRange := (· < 256)
  sizeOk n := decide (n ≤ maxByteSize)
  lift_var _ := rfl
  lift_val a := ⟨some (a : Int), rfl, rfl⟩
  conv_name n hn := by simp [convBinary, valid_not_0b n hn]
  mk_eq_some := mkBinary_eq_some
  fillLeaf_node xs e := by simp only [fillLeaf, fillArgs_liftB]
  wf_node _ := rfl
  vars_node _ := rfl
  isList_node _ := rfl
  node_ne_empty _ := nofun

theorem fillLeaf_int (w : Nat) (xs : List (Slot Int)) (e : Env) (hw : (Tmpl.int w xs).wf = true) :
    fillLeaf (.int w xs) e = mkInt w (fillArgs (.sint 64) e xs) := by
  have := (intKind w).fillLeaf_eq e hw
  rw [show xs.map (intKind w).lift = xs from List.map_id xs] at this
  exact this

theorem fillLeaf_uint (w : Nat) (xs : List (Slot Nat)) (e : Env) (hw : (Tmpl.uint w xs).wf = true) :
    fillLeaf (.uint w xs) e = mkUint w (fillArgs (.uint 64) e xs) := by
  have := (uintKind w).fillLeaf_eq e hw
  rw [show xs.map (uintKind w).lift = xs from List.map_id xs] at this
  exact this

theorem fillLeaf_boolean (xs : List (Slot Bool)) (e : Env) (hw : (Tmpl.boolean xs).wf = true) :
    fillLeaf (.boolean xs) e = mkBoolean (fillArgs .bool e xs) := by
  have := boolKind.fillLeaf_eq e hw
  rw [show xs.map boolKind.lift = xs from List.map_id xs] at this
  exact this

theorem fillLeaf_binary (xs : List (Slot Nat)) (e : Env) (hw : (Tmpl.binary xs).wf = true) :
    fillLeaf (.binary xs) e = mkBinary (fillArgs (fun (v : Nat) => GoVal.sint 0 v) e xs) := by
  rw [fillArgs_liftB]; exact binKind.fillLeaf_eq e hw

theorem Sml.rebuild_binary (xs : List (Slot Nat)) (hw : (Tmpl.binary xs).wf = true) :
    mkBinary (xs.map (argOf (fun (v : Nat) => .sint 0 v))) = some (.binary xs) := by
  refine Eq.trans (congrArg mkBinary ?_) (binKind.rebuild hw)
  rw [List.map_map]
  exact List.map_congr_left fun x _ => by cases x <;> rfl

end Secs
