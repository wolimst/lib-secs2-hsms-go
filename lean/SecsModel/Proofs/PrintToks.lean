/-
The token-level printer: the token stream (positions aside) that the printed form of an item or
message consists of, and the parser half of the print → parse round trip: parsing that token
stream gives the item back.
-/
import SecsModel.Model.Parser
import SecsModel.Model.Print
import SecsModel.Proofs.PrintParseNum
import SecsModel.Props.C15
import SecsModel.Proofs.FillLeaf
import SecsModel.Proofs.FillWF
import SecsModel.Proofs.ParserState
namespace Secs
namespace Sml
open Lex Strconv

def tk (k : Kind) (v : Bytes) : Tok := ⟨k, v, 0, 0, none⟩

def slotToks {α} (f : α → Tok) : List (Slot α) → List Tok
  | [] => []
  | .val a :: r => f a :: slotToks f r
  | .var n :: r => tk .variable n :: slotToks f r

def sizeTok (n : Nat) : Tok := tk .itemSize ([91] ++ decDigits n ++ [93])

/-- `<T[n] v … v>` -/
def arrayToks {α} (ty : Bytes) (f : α → Tok) (xs : List (Slot α)) : List Tok :=
  [tk .lab [60], tk .itemType ty, sizeTok xs.length] ++ slotToks f xs ++ [tk .rab [62]]

/-- the literal tokens of an ASCII item: quoted runs and `0xNN` codes (`run` = the quoted run
being collected) -/
def asciiSegs : Bytes → Bytes → List Tok
  | run, [] => if run.isEmpty then [] else [tk .quoted (34 :: (run ++ [34]))]
  | run, ch :: r =>
    if asciiIsCode ch then
      (if run.isEmpty then [] else [tk .quoted (34 :: (run ++ [34]))]) ++
        tk .number (48 :: 120 :: hex2 ch) :: asciiSegs [] r
    else asciiSegs (run ++ [ch]) r

/-- the size declaration of an ASCII variable, as printed -/
def boundsToks (mn mx : Int) : List Tok :=
  if mn == 0 && mx == -1 then [] else [tk .itemSize (printSizeBounds mn mx)]

mutual
def itemToks : Tmpl → List Tok
  | .list xs =>
    [tk .lab [60], tk .itemType [76]] ++ (if xs.hasVar then [] else [sizeTok xs.len]) ++ slotsToks xs ++ [tk .rab [62]]
  | .ascii s =>
    if s.isEmpty then [tk .lab [60], tk .itemType [65], sizeTok 0, tk .rab [62]]
    else [tk .lab [60], tk .itemType [65]] ++ asciiSegs [] s ++ [tk .rab [62]]
  | .asciiVar n mn mx => [tk .lab [60], tk .itemType [65]] ++ boundsToks mn mx ++ [tk .variable n, tk .rab [62]]
  | .binary xs => arrayToks [66] (fun v => tk .number (printBin v)) xs
  | .boolean xs => arrayToks [66, 79, 79, 76, 69, 65, 78] (fun b => tk .bool (printBool b)) xs
  | .int w xs => arrayToks (73 :: decDigits w) (fun v => tk .number (intDec v)) xs
  | .uint w xs => arrayToks (85 :: decDigits w) (fun v => tk .number (decDigits v)) xs
  | .float w xs => arrayToks (70 :: decDigits w) (fun b => tk .number (FloatLib.fmtG w b)) xs
  | .empty => []

def slotsToks : Slots → List Tok
  | .nil => []
  | .item t r => itemToks t ++ slotsToks r
  | .var n r => (if isEllipsis n then tk .ellipsis [46, 46, 46] else tk .variable n) :: slotsToks r
end

def isValueKind (k : Kind) : Bool := k == .number || k == .bool || k == .quoted || k == .variable

theorem isValueKind_iff (k : Kind) : isValueKind k = true ↔ k = .number ∨ k = .bool ∨ k = .quoted ∨ k = .variable := by
  simp only [isValueKind, Bool.or_eq_true, beq_iff_eq, or_assoc]

-- patterns on the analysed argument only, the rest by `fun`: a pattern over all arguments builds a matcher over each
theorem valueTokens_values (E W : List Diag) (N : List Name) (e : Nat) : ∀ (vals : List Tok) (fuel : Nat) (rest : List Tok),
    (∀ t ∈ vals, isValueKind t.kind = true) → vals.length < fuel →
    valueTokens fuel ⟨vals ++ tk .rab [62] :: rest, E, W, N, e, false⟩ = (vals, ⟨tk .rab [62] :: rest, E, W, N, e, false⟩)
  | _, 0 => fun _ _ hf => by omega
  | [], _ + 1 => fun _ _ _ => rfl
  | v :: vs, fuel + 1 => fun rest hv hf => by
    have ih := valueTokens_values E W N e vs fuel rest (fun t ht => hv t (by simp [ht])) (by simpa using hf)
    rw [valueTokens]
    simp only [PS.peek, PS.pop, List.cons_append, List.drop_succ_cons, List.drop_zero]
    rcases (isValueKind_iff _).mp (hv v (by simp)) with h | h | h | h <;> (rw [h]; simp only [ih])

/-- names not yet used: pairwise distinct and none in the parser's table -/
def Fresh (vs names : List Name) : Prop := nodupNames vs = true ∧ ∀ v ∈ vs, names.contains v = false

theorem Fresh.tail {n : Name} {r names : List Name} (h : Fresh (n :: r) names) : Fresh r (n :: names) := by
  obtain ⟨hnr, hr⟩ := List.nodup_cons.mp ((nodupNames_iff _).mp h.1)
  refine ⟨(nodupNames_iff r).mpr hr, fun v hv => ?_⟩
  have hne : v ≠ n := fun hvn => hnr (hvn ▸ hv)
  simpa [hne] using h.2 v (by simp [hv])

theorem Fresh.head {n : Name} {r names : List Name} (h : Fresh (n :: r) names) : names.contains n = false :=
  h.2 n (by simp)

theorem arrayArgs_slotToks {α} (ty : Bytes) (w : Nat) (f : α → Tok) (canon : α → GoVal) :
    ∀ (xs : List (Slot α)) (s : PS),
    (∀ a, Slot.val a ∈ xs → (f a).kind ≠ .error ∧ ∀ s' : PS, arrayArg ty w s' (f a) = some (canon a, s')) →
    Fresh (slotVars xs) s.names →
    arrayArgs ty w (slotToks f xs) s =
      (some (xs.map (argOf canon)), { s with names := (slotVars xs).reverse ++ s.names }) := by
  intro xs
  induction xs with
  | nil => intro s _ _; simp [slotToks, arrayArgs, slotVars]
  | cons x r ih =>
    intro s hval hfresh
    cases x with
    | val a =>
      obtain ⟨hk, ha⟩ := hval a (by simp)
      have ihr := ih s (fun b hb => hval b (by simp [hb])) (by simpa [slotVars] using hfresh)
      simp only [slotToks, arrayArgs]
      have hke : ((f a).kind == Kind.error) = false := by
        cases hka : (f a).kind <;> first | rfl | exact absurd hka hk
      simp only [hke, Bool.false_eq_true, if_false, ha s, ihr, List.map_cons, argOf, slotVars]
    | var n =>
      have hfr : Fresh (n :: slotVars r) s.names := by simpa [slotVars] using hfresh
      have hn := hfr.head
      have harg : arrayArg ty w s (tk .variable n) = some (.str n, s.addName n) := by
        unfold arrayArg
        simp only [tk, varArg, hn, Bool.false_eq_true, if_false]
        rfl
      have ihr := ih (s.addName n) (fun b hb => hval b (by simp [hb])) (by simpa [PS.addName] using hfr.tail)
      simp only [slotToks, arrayArgs]
      have hke : ((tk .variable n).kind == Kind.error) = false := rfl
      simp only [hke, Bool.false_eq_true, if_false, harg, ihr, List.map_cons, argOf, slotVars]
      simp [PS.addName]

theorem slotToks_value {α} (f : α → Tok) (xs : List (Slot α)) (hf : ∀ a, Slot.val a ∈ xs → isValueKind (f a).kind = true) :
    ∀ t ∈ slotToks f xs, isValueKind t.kind = true := by
  induction xs with
  | nil => intro t ht; simp [slotToks] at ht
  | cons x r ih =>
    intro t ht
    cases x with
    | val a =>
      simp only [slotToks, List.mem_cons] at ht
      rcases ht with rfl | ht
      · exact hf a (by simp)
      · exact ih (fun b hb => hf b (by simp [hb])) t ht
    | var n =>
      simp only [slotToks, List.mem_cons] at ht
      rcases ht with rfl | ht
      · rfl
      · exact ih (fun b hb => hf b (by simp [hb])) t ht

theorem slotToks_length {α} (f : α → Tok) (xs : List (Slot α)) : (slotToks f xs).length = xs.length := by
  induction xs with
  | nil => rfl
  | cons x r ih => cases x <;> simp [slotToks, ih]

/-- a printed size declaration, or none, and the bounds it is read as -/
def Decl (decl : List Tok) (lo hi : Int) : Prop :=
  (decl = [] ∧ lo = 0 ∧ hi = -1) ∨ ∃ v, decl = [tk .itemSize v] ∧ sizeBounds v = (lo, hi)

section
variable (E W : List Diag) (N : List Name) (e : Nat)

theorem closeItem_ok (st : Tok) (lo hi : Int) (t : Tmpl) (rest : List Tok) (N' : List Name) (e' : Nat) (sk : Bool)
    (hsize : t.size < 0 ∨ sizeOk t.size lo hi = true) :
    closeItem st lo hi (.ok t) ⟨tk .rab [62] :: rest, E, W, N', e', sk⟩ = (.ok t, ⟨rest, E, W, N', e', false⟩) := by
  have : (decide (t.size ≥ 0) && !sk && !sizeOk t.size lo hi) = false := by
    rcases hsize with h | h
    · have : ¬ t.size ≥ 0 := by omega
      simp [this]
    · simp [h]
  simp only [closeItem, this, Bool.false_eq_true, if_false]
  rfl

/-- parseDataItem after the `<` on a printed item: the type, the declaration (if any), then the
values up to `>` as the sub-parser of the type reads them, the size check, the `>` -/
theorem itemBody_printed (ll : PS → R Tmpl × PS) (ty : Bytes) (decl : List Tok) (lo hi : Int) (hd : Decl decl lo hi)
    (body rest : List Tok) (hb : ∀ b ∈ body.head?, b.kind ≠ .itemSize ∧ b.kind ≠ .error) (t : Tmpl) (N' : List Name) (e' : Nat)
    (hvals : (if ty == [76] then ll ⟨body, E, W, N, e, false⟩
        else if ty == [65] then asciiItem lo hi ⟨body, E, W, N, e, false⟩
        else arrayItem ty ⟨body, E, W, N, e, false⟩) = (.ok t, ⟨tk .rab [62] :: rest, E, W, N', e', false⟩))
    (hsize : t.size < 0 ∨ sizeOk t.size lo hi = true) :
    itemBody ll ⟨tk .itemType ty :: (decl ++ body), E, W, N, e, false⟩ = (.ok t, ⟨rest, E, W, N', e', false⟩) := by
  have e1 : (Kind.itemType != Kind.itemType) = false := rfl
  have e2 : (Kind.itemSize == Kind.itemSize) = true := rfl
  have e3 : (Kind.itemSize != Kind.itemSize) = false := rfl
  rcases hd with ⟨rfl, rfl, rfl⟩ | ⟨v, rfl, hv⟩
  · -- no declaration: the next token is neither a size nor a lexing error
    have hk : ((PS.peek ⟨body, E, W, N, e, false⟩).kind == Kind.itemSize) = false ∧
        ((PS.peek ⟨body, E, W, N, e, false⟩).kind == Kind.error) = false := by
      cases body with
      | nil => exact ⟨rfl, rfl⟩
      | cons b bs =>
        obtain ⟨h1, h2⟩ := hb b rfl
        constructor <;> (simp only [PS.peek]; cases hk : b.kind <;> first | rfl | exact absurd hk h1 | exact absurd hk h2)
    simp only [itemBody, PS.peek, PS.pop, tk, sizeDecl, List.nil_append, List.drop_succ_cons, List.drop_zero, e1,
      Bool.false_eq_true, if_false] at hk hvals ⊢
    simp only [hk.1, hk.2, Bool.and_false, Bool.false_eq_true, if_false, hvals]
    exact closeItem_ok E W dummyTok 0 (-1) t rest N' e' false hsize
  · have h1 : (sizeBounds v).1 = lo := by rw [hv]
    have h2 : (sizeBounds v).2 = hi := by rw [hv]
    simp only [itemBody, PS.peek, PS.pop, tk, sizeDecl, List.cons_append, List.nil_append, List.drop_succ_cons, List.drop_zero,
      e1, e2, e3, Bool.false_eq_true, if_false, Bool.false_and, if_true, h1, h2] at hvals ⊢
    rw [hvals]
    exact closeItem_ok E W _ lo hi t rest N' e' false hsize

theorem head_append_rab (P : Tok → Prop) (body rest : List Tok) (hbody : ∀ t ∈ body.head?, P t) (hrab : P (tk .rab [62])) :
    ∀ b ∈ (body ++ tk .rab [62] :: rest).head?, P b := by
  cases body with
  | nil => intro b hb; simp at hb; exact hb ▸ hrab
  | cons x r => exact hbody

theorem decl_sizeTok (n : Nat) (h : n < 2 ^ 63) : Decl [sizeTok n] n n :=
  Or.inr ⟨_, rfl, by simpa [sizeTok, tk] using C15.bounds_exact n h⟩

theorem valueKind_body (t : Tok) (h : isValueKind t.kind = true) : t.kind ≠ .itemSize ∧ t.kind ≠ .error := by
  constructor <;> (intro hk; rw [hk] at h; revert h; decide)

theorem parseItemF_lab (fuel : Nat) (r : List Tok) (t : Tmpl) (s' : PS)
    (h : itemBody (parseItemF.listLoop fuel 0 []) ⟨r, E, W, N, e, false⟩ = (.ok t, s')) :
    parseItemF (fuel + 1) ⟨tk .lab [60] :: r, E, W, N, e, false⟩ = (.ok t, s') := by
  have e1 : (Kind.lab != Kind.lab) = false := rfl
  simp only [parseItemF, PS.peek, PS.pop, tk, e1, Bool.false_eq_true, if_false, List.drop_succ_cons, List.drop_zero]
  rw [h]
  rfl

theorem parseItem_array {α} (n : Nat) (ty : Bytes) (f : α → Tok) (canon : α → GoVal) (xs : List (Slot α)) (t : Tmpl)
    (rest : List Tok) (hL : (ty == [76]) = false) (hA : (ty == [65]) = false)
    (hlen : xs.length < 2 ^ 63) (hsize : t.size = (xs.length : Int))
    (hkind : ∀ a, Slot.val a ∈ xs → isValueKind (f a).kind = true)
    (hval : ∀ a, Slot.val a ∈ xs → (f a).kind ≠ .error ∧ ∀ s' : PS, arrayArg ty (widthOfType ty) s' (f a) = some (canon a, s'))
    (hfresh : Fresh (slotVars xs) N)
    (hmk : dispatch ty (widthOfType ty) (xs.map (argOf canon)) = some t) :
    parseItemF (n + 1) ⟨arrayToks ty f xs ++ rest, E, W, N, e, false⟩ =
      (.ok t, ⟨rest, E, W, (slotVars xs).reverse ++ N, e, false⟩) := by
  have hvals : arrayItem ty ⟨slotToks f xs ++ tk .rab [62] :: rest, E, W, N, e, false⟩ =
      (.ok t, ⟨tk .rab [62] :: rest, E, W, (slotVars xs).reverse ++ N, e, false⟩) := by
    rw [arrayItem_eq, valueTokens_values E W N e _ _ rest (slotToks_value f xs hkind) (by simp; omega)]
    simp only [arrayArgs_slotToks ty _ f canon xs ⟨tk .rab [62] :: rest, E, W, N, e, false⟩ hval hfresh, hmk, Option.elim,
      ofFactory]
  have htoks : arrayToks ty f xs ++ rest =
      tk .lab [60] :: tk .itemType ty :: ([sizeTok xs.length] ++ (slotToks f xs ++ tk .rab [62] :: rest)) := by
    simp [arrayToks]
  rw [htoks]
  exact parseItemF_lab E W N e n _ _ _ (itemBody_printed E W N e _ ty _ _ _ (decl_sizeTok _ hlen) _ rest
    (head_append_rab _ _ _ (fun t ht => valueKind_body t (slotToks_value f xs hkind t (List.mem_of_mem_head? ht)))
      ⟨by decide, by decide⟩) t _ e (by rw [hL, hA]; exact hvals) (Or.inr (by rw [hsize]; simp [sizeOk])))

end

theorem str_0b : str "0b" = [48, 98] := by decide +kernel

theorem intInRange_cast {w : Nat} {v : Int} (hv : intInRange w v = true) :
    -((2 ^ (8 * w - 1) : Nat) : Int) ≤ v ∧ v < ((2 ^ (8 * w - 1) : Nat) : Int) := by
  simp only [intInRange, Bool.and_eq_true, decide_eq_true_eq] at hv
  rw [Int.natCast_pow]
  exact ⟨hv.1, Int.lt_of_le_sub_one hv.2⟩

theorem arrayArg_int (w : Nat) (hw : w = 1 ∨ w = 2 ∨ w = 4 ∨ w = 8) (v : Int) (hv : intInRange w v = true) (s : PS) :
    arrayArg (73 :: decDigits w) w s (tk .number (intDec v)) = some (.sint 64 v, s) := by
  have hp := parseInt_intDec v w hw (intInRange_cast hv).1 (intInRange_cast hv).2
  have hd : decDigits w = [48 + w] := decDigits_small w (by omega)
  unfold arrayArg
  simp only [tk, hd, hp, numErrKind]
  rcases hw with h | h | h | h <;> subst h <;> rfl

theorem arrayArg_uint (w : Nat) (hw : w = 1 ∨ w = 2 ∨ w = 4 ∨ w = 8) (v : Nat) (hv : uintInRange w v = true) (s : PS) :
    arrayArg (85 :: decDigits w) w s (tk .number (decDigits v)) = some (.uint 64 v, s) := by
  have hp := parseUint_decDigits v (8 * w) (by rcases hw with h | h | h | h <;> subst h <;> simp)
    (by rcases hw with h | h | h | h <;> subst h <;> simp [uintInRange] at hv ⊢ <;> omega)
  have hd : decDigits w = [48 + w] := decDigits_small w (by omega)
  unfold arrayArg
  simp only [tk, hd, hp, numErrKind]
  rcases hw with h | h | h | h <;> subst h <;> rfl

theorem arrayArg_bool (b : Bool) (s : PS) :
    arrayArg [66, 79, 79, 76, 69, 65, 78] 0 s (tk .bool (printBool b)) = some (.bool b, s) := by
  cases b <;> rfl

theorem arrayArg_binary (v : Nat) (hv : v < 256) (s : PS) :
    arrayArg [66] 0 s (tk .number (printBin v)) = some (.sint 0 v, s) := by
  have hp := parseInt_bin v (by omega)
  unfold arrayArg
  simp only [tk, printBin, str_0b, hp]
  simp
  omega

theorem widthOfType_int (w : Nat) (hw : w = 1 ∨ w = 2 ∨ w = 4 ∨ w = 8) (c : Nat) : widthOfType (c :: decDigits w) = w := by
  rw [decDigits_small w (by omega)]
  simp [widthOfType]

/-- the tokens of an ASCII item: quoted runs of characters written as they are, and codes -/
theorem mem_asciiSegs : ∀ (r run : Bytes) (t : Tok), (∀ c ∈ run, asciiIsCode c = false) → t ∈ asciiSegs run r →
    (∃ q, (∀ c ∈ q, asciiIsCode c = false) ∧ t = tk .quoted (34 :: (q ++ [34]))) ∨ ∃ ch, t = tk .number (48 :: 120 :: hex2 ch)
  | [] => fun run t hrun ht => by
    simp only [asciiSegs] at ht
    split at ht
    · cases ht
    · exact .inl ⟨run, hrun, List.mem_singleton.mp ht⟩
  | ch :: r => fun run t hrun ht => by
    simp only [asciiSegs] at ht
    split at ht
    · rcases List.mem_append.mp ht with ht | ht
      · split at ht
        · cases ht
        · exact .inl ⟨run, hrun, List.mem_singleton.mp ht⟩
      · rcases List.mem_cons.mp ht with rfl | ht
        · exact .inr ⟨ch, rfl⟩
        · exact mem_asciiSegs r [] t nofun ht
    · rename_i hc
      refine mem_asciiSegs r (run ++ [ch]) t (fun c hcm => ?_) ht
      rcases List.mem_append.mp hcm with h | h
      · exact hrun c h
      · rw [List.mem_singleton.mp h]; simpa using hc

theorem asciiSegs_value (r : Bytes) : ∀ t ∈ asciiSegs [] r, isValueKind t.kind = true := fun t ht => by
  rcases mem_asciiSegs r [] t nofun ht with ⟨q, _, rfl⟩ | ⟨ch, rfl⟩ <;> rfl

theorem asciiLoop_quoted (mn mx : Int) (n : Nat) (run lit : Bytes) (more : List Tok) (st : PS)
    (hrun : ∀ c ∈ run, c < 128) :
    asciiLoop mn mx n (tk .quoted (34 :: (run ++ [34])) :: more) lit st = asciiLoop mn mx n more (lit ++ run) st := by
  have hin : List.take ((34 :: (run ++ [34])).length - 2) (List.drop 1 (34 :: (run ++ [34]))) = run := by simp
  have hall : run.all (· < 128) = true := by simpa using hrun
  rw [asciiLoop]
  simp only [tk, hin, hall, if_true]

theorem asciiLoop_code (mn mx : Int) (n : Nat) (ch : Nat) (hch : ch < 128) (lit : Bytes) (more : List Tok) (st : PS) :
    asciiLoop mn mx n (tk .number (48 :: 120 :: hex2 ch) :: more) lit st = asciiLoop mn mx n more (lit ++ [ch]) st := by
  have hcode : parseUint (48 :: 120 :: hex2 ch) 0 0 = ⟨ch, none⟩ := by
    have := parseUint_hexcode ⟨ch, hch⟩
    simpa [hex2] using this
  rw [asciiLoop]
  simp only [tk, hcode]
  have h1 : ¬ (ch > 127) := by omega
  simp [h1]

theorem asciiLoop_flush (mn mx : Int) (n : Nat) (run lit : Bytes) (more : List Tok) (st : PS) (hrun : ∀ c ∈ run, c < 128) :
    asciiLoop mn mx n ((if run.isEmpty then [] else [tk .quoted (34 :: (run ++ [34]))]) ++ more) lit st =
      asciiLoop mn mx n more (lit ++ run) st := by
  by_cases he : run.isEmpty = true
  · have : run = [] := by simpa using he
    subst this
    simp
  · rw [if_neg he]
    exact asciiLoop_quoted mn mx n run lit more st hrun

theorem asciiLoop_segs (mn mx : Int) (n : Nat) : ∀ (r run lit : Bytes) (more : List Tok) (st : PS),
    (∀ c ∈ run, c < 128) → (∀ c ∈ r, c < 128) →
    asciiLoop mn mx n (asciiSegs run r ++ more) lit st = asciiLoop mn mx n more (lit ++ run ++ r) st
  | [] => fun run lit more st hrun _ => by
    rw [asciiSegs, asciiLoop_flush mn mx n run lit more st hrun, List.append_nil]
  | ch :: r => fun run lit more st hrun hr => by
    have hch : ch < 128 := hr ch (by simp)
    have hr' : ∀ c ∈ r, c < 128 := fun c hc => hr c (by simp [hc])
    rw [asciiSegs]
    split
    · rw [List.append_assoc, asciiLoop_flush mn mx n run lit _ st hrun, List.cons_append, asciiLoop_code mn mx n ch hch,
        asciiLoop_segs mn mx n r [] _ more st (by simp) hr']
      simp
    · rw [asciiLoop_segs mn mx n r (run ++ [ch]) lit more st
        (by intro c hc; rcases List.mem_append.mp hc with h | h
            · exact hrun c h
            · simp at h; omega)
        hr']
      simp

section
variable (E W : List Diag) (N : List Name) (e : Nat)

/-- one statement for `<A "…" 0xNN …>` (no declaration) and `<A[0]>`: the literal tokens are read as
the string whatever is declared -/
theorem parseItem_ascii (n : Nat) (str : Bytes) (hw : (Tmpl.ascii str).wf = true) (rest : List Tok)
    (decl : List Tok) (lo hi : Int) (hd : Decl decl lo hi) (hsize : sizeOk str.length lo hi = true) :
    parseItemF (n + 1)
        ⟨tk .lab [60] :: tk .itemType [65] :: (decl ++ (asciiSegs [] str ++ tk .rab [62] :: rest)), E, W, N, e, false⟩ =
      (.ok (.ascii str), ⟨rest, E, W, N, e, false⟩) := by
  have hall : ∀ c ∈ str, c < 128 := by
    simp only [Tmpl.wf, Bool.and_eq_true, List.all_eq_true, decide_eq_true_eq] at hw
    exact hw.2
  have hvals : asciiItem lo hi ⟨asciiSegs [] str ++ tk .rab [62] :: rest, E, W, N, e, false⟩ =
      (.ok (.ascii str), ⟨tk .rab [62] :: rest, E, W, N, e, false⟩) := by
    unfold asciiItem
    rw [valueTokens_values E W N e _ _ rest (asciiSegs_value str) (by simp; omega)]
    have hloop := asciiLoop_segs lo hi (asciiSegs [] str).length str [] [] []
      ⟨tk .rab [62] :: rest, E, W, N, e, false⟩ (by simp) hall
    simp only [List.append_nil, List.nil_append] at hloop
    simp only [hloop, asciiLoop, rebuild_ascii str hw, ofFactory]
  exact parseItemF_lab E W N e n _ _ _ (itemBody_printed E W N e _ [65] decl lo hi hd _ rest
    (head_append_rab _ _ _ (fun t ht => valueKind_body t (asciiSegs_value str t (List.mem_of_mem_head? ht)))
      ⟨by decide, by decide⟩) _ N e hvals (Or.inr hsize))

end

/-- the size declaration of an ASCII variable in digits: `[b]`, or `[a..` hi `]` with nothing for an open end -/
theorem printSizeBounds_digits (mn mx : Int) (h0 : 0 ≤ mn) (h1 : -1 ≤ mx) (hne : ¬ (mn = 0 ∧ mx = -1)) :
    printSizeBounds mn mx = if mn = mx then 91 :: decDigits mx.toNat ++ [93]
      else 91 :: (decDigits mn.toNat ++ 46 :: 46 :: (if mx = -1 then [] else decDigits mx.toNat)) ++ [93] := by
  rw [C15.printed_bounds, if_neg hne]
  split
  · rw [intDec_of_nonneg mx (by omega)]; rfl
  · split
    · rw [intDec_of_nonneg mn h0]; simp
    · rw [intDec_of_nonneg mn h0, intDec_of_nonneg mx (by omega)]; simp

theorem boundsToks_size (mn mx : Int) (hne : ¬ (mn = 0 ∧ mx = -1)) :
    boundsToks mn mx = [tk .itemSize (printSizeBounds mn mx)] := by
  have : (mn == 0 && mx == -1) = false := by
    simp only [Bool.and_eq_false_iff, beq_eq_false_iff_ne, ne_eq]; omega
  simp [boundsToks, this]

theorem printedBounds_read (mn mx : Int) (h0 : 0 ≤ mn) (h1 : -1 ≤ mx)
    (hmn : mn < 2 ^ 63) (hmx : mx < 2 ^ 63) (hne : ¬ (mn = 0 ∧ mx = -1)) :
    sizeBounds (printSizeBounds mn mx) = (mn, mx) := by
  rw [printSizeBounds_digits mn mx h0 h1 hne]
  split
  · rename_i h
    rw [C15.bounds_exact _ (by omega), Int.toNat_of_nonneg (by omega), h]
  · split
    · rename_i h
      rw [C15.bounds_from _ (by omega), Int.toNat_of_nonneg h0, h]
    · rw [C15.bounds_range _ _ (by omega) (by omega), Int.toNat_of_nonneg h0, Int.toNat_of_nonneg (by omega)]

section
variable (E W : List Diag) (N : List Name) (e : Nat)

theorem decl_bounds (mn mx : Int) (h0 : 0 ≤ mn) (h1 : -1 ≤ mx) (hmn : mn < 2 ^ 63) (hmx : mx < 2 ^ 63) :
    Decl (boundsToks mn mx) mn mx := by
  by_cases hb : mn = 0 ∧ mx = -1
  · left; simp [boundsToks, hb.1, hb.2]
  · exact .inr ⟨printSizeBounds mn mx, boundsToks_size mn mx hb, printedBounds_read mn mx h0 h1 hmn hmx hb⟩

theorem parseItem_asciiVar (k : Nat) (n : Name) (mn mx : Int) (hw : (Tmpl.asciiVar n mn mx).wf = true)
    (hmn : mn < 2 ^ 63) (hmx : mx < 2 ^ 63) (rest : List Tok) (hfresh : N.contains n = false) :
    parseItemF (k + 1)
        ⟨tk .lab [60] :: tk .itemType [65] :: (boundsToks mn mx ++ (tk .variable n :: tk .rab [62] :: rest)), E, W, N, e, false⟩ =
      (.ok (.asciiVar n mn mx), ⟨rest, E, W, n :: N, e, false⟩) := by
  have hwf := hw
  simp only [Tmpl.wf, Bool.and_eq_true, decide_eq_true_eq, Bool.or_eq_true, beq_iff_eq] at hwf
  refine parseItemF_lab E W N e k _ _ _ (itemBody_printed E W N e _ [65] _ mn mx
    (decl_bounds mn mx hwf.1.1.2 hwf.1.2 hmn hmx) _ rest
    (fun b hb => by simp at hb; subst hb; exact valueKind_body _ rfl) _ _ e ?_ (Or.inl (show (-1 : Int) < 0 by decide)))
  show asciiItem mn mx _ = _
  unfold asciiItem
  rw [show valueTokens _ ⟨tk .variable n :: tk .rab [62] :: rest, E, W, N, e, false⟩ = _ from
    valueTokens_values E W N e [tk .variable n] _ rest (by intro t ht; simp at ht; subst ht; rfl) (by simp)]
  simp only [asciiLoop, tk, List.length_singleton, bne_self_eq_false, Bool.false_eq_true, if_false, hfresh,
    rebuild_asciiVar n mn mx hw, ofFactory]

end

-- the trees the printed form can express and the parser half is proved for: no error
-- placeholder inside, no float item (their literals are read by the library's ParseFloat),
-- ASCII bounds that fit a Go int
mutual
def cleanT : Tmpl → Bool
  | .list xs => cleanS xs
  | .asciiVar _ mn mx => decide (mn < 2 ^ 63) && decide (mx < 2 ^ 63)
  | .float _ _ => false
  | .empty => false
  | _ => true

def cleanS : Slots → Bool
  | .nil => true
  | .item t r => cleanT t && cleanS r
  | .var _ r => cleanS r
end

-- the ellipsis counter after the tree, when its ellipses are numbered in order of appearance
-- starting from `k` (the numbering the parser assigns)
mutual
def ellAfter (k : Nat) : Tmpl → Option Nat
  | .list xs => ellAfterS k xs
  | _ => some k

def ellAfterS (k : Nat) : Slots → Option Nat
  | .nil => some k
  | .item t r => (ellAfter k t).bind (fun k' => ellAfterS k' r)
  | .var n r =>
    if isEllipsis n then (if n == [46, 46, 46, 91] ++ decDigits k ++ [93] then ellAfterS (k + 1) r else none)
    else ellAfterS k r
end

-- the parser's name table after the tree
mutual
def namesAfter (names : List Name) : Tmpl → List Name
  | .list xs => namesAfterS names xs
  | .asciiVar n _ _ => n :: names
  | .binary xs => (slotVars xs).reverse ++ names
  | .boolean xs => (slotVars xs).reverse ++ names
  | .int _ xs => (slotVars xs).reverse ++ names
  | .uint _ xs => (slotVars xs).reverse ++ names
  | .float _ xs => (slotVars xs).reverse ++ names
  | _ => names

def namesAfterS (names : List Name) : Slots → List Name
  | .nil => names
  | .item t r => namesAfterS (namesAfter names t) r
  | .var n r => if isEllipsis n then namesAfterS names r else namesAfterS (n :: names) r
end

theorem itemToks_cons (t : Tmpl) (hc : cleanT t = true) : ∃ ts, itemToks t = tk .lab [60] :: ts := by
  cases t with
  | list xs => exact ⟨_, by rw [itemToks]; rfl⟩
  | ascii str =>
    by_cases h : str.isEmpty = true
    · exact ⟨_, by rw [itemToks, if_pos h]⟩
    · exact ⟨_, by rw [itemToks, if_neg h]; rfl⟩
  | asciiVar n mn mx => exact ⟨_, by rw [itemToks]; rfl⟩
  | binary zs | boolean zs | int w zs | uint w zs => exact ⟨_, by rw [itemToks, arrayToks]; rfl⟩
  | float w zs | empty => simp [cleanT] at hc

theorem slotsToks_head_kind : ∀ xs : Slots, cleanS xs = true →
    ∀ t ts, slotsToks xs = t :: ts → (t.kind = .lab ∨ t.kind = .variable ∨ t.kind = .ellipsis)
  | .nil => fun _ t ts h => by simp [slotsToks] at h
  | .item it r => fun hc t ts h => by
    simp only [cleanS, Bool.and_eq_true] at hc
    obtain ⟨ts', hts⟩ := itemToks_cons it hc.1
    simp [slotsToks, hts] at h
    left; rw [← h.1]; rfl
  | .var n r => fun _ t ts h => by
    simp only [slotsToks] at h
    split at h
    · simp at h; right; right; rw [← h.1]; rfl
    · simp at h; right; left; rw [← h.1]; rfl

-- every name of the tree is new where the parser meets it
mutual
def FreshT (names : List Name) : Tmpl → Prop
  | .list xs => FreshS names xs
  | .asciiVar n _ _ => names.contains n = false
  | .binary xs => Fresh (slotVars xs) names
  | .boolean xs => Fresh (slotVars xs) names
  | .int _ xs => Fresh (slotVars xs) names
  | .uint _ xs => Fresh (slotVars xs) names
  | .float _ xs => Fresh (slotVars xs) names
  | _ => True

def FreshS (names : List Name) : Slots → Prop
  | .nil => True
  | .item t r => FreshT names t ∧ FreshS (namesAfter names t) r
  | .var n r => if isEllipsis n then FreshS names r else (names.contains n = false ∧ FreshS (n :: names) r)
end

theorem listOwnOk_ellipsis_pos (n : Name) (r : Slots) (pos : Nat) (e : Bool) (hn : isEllipsis n = true)
    (h : listOwnOk (.var n r) pos e = true) : pos ≠ 0 ∧ listOwnOk r (pos + 1) true = true := by
  have hv : isValidVarName n = false := by
    cases hvv : isValidVarName n with
    | false => rfl
    | true => rw [valid_not_ellipsis n hvv] at hn; cases hn
  simp only [listOwnOk, hv, Bool.false_eq_true, if_false, hn, if_true, Bool.and_eq_true, bne_iff_ne, ne_eq,
    Bool.not_eq_true'] at h
  exact ⟨h.1.1, h.2⟩

theorem listOwnOk_plain (n : Name) (r : Slots) (pos : Nat) (e : Bool) (hn : isEllipsis n = false)
    (h : listOwnOk (.var n r) pos e = true) : listOwnOk r (pos + 1) e = true := by
  simp only [listOwnOk, hn, Bool.false_eq_true, if_false] at h
  split at h
  · exact h
  · cases h

theorem listLoop_lab (fuel count : Nat) (acc : List GoVal) (s : PS) (hp : s.peek = tk .lab [60]) (t : Tmpl) (s1 : PS)
    (hitem : parseItemF fuel s = (.ok t, s1)) :
    parseItemF.listLoop (fuel + 1) count acc s = parseItemF.listLoop fuel (count + 1) (.item t :: acc) s1 := by
  rw [parseItemF.listLoop]
  simp only [hp, tk, hitem]

section
variable (E W : List Diag) (N : List Name) (e : Nat) (fuel count : Nat) (acc : List GoVal) (rest : List Tok)

theorem listLoop_rab :
    parseItemF.listLoop (fuel + 1) count acc ⟨tk .rab [62] :: rest, E, W, N, e, false⟩ =
      (ofFactory (mkList acc.reverse), ⟨tk .rab [62] :: rest, E, W, N, e, false⟩) := by
  rw [parseItemF.listLoop]
  rfl

theorem listLoop_var (nm : Name) (hc : N.contains nm = false) :
    parseItemF.listLoop (fuel + 1) count acc ⟨tk .variable nm :: rest, E, W, N, e, false⟩ =
      parseItemF.listLoop fuel (count + 1) (.str nm :: acc) ⟨rest, E, W, nm :: N, e, false⟩ := by
  rw [parseItemF.listLoop]
  simp only [PS.peek, PS.pop, tk, hc, Bool.false_eq_true, if_false]
  rfl

theorem listLoop_ell (hc : count ≠ 0) :
    parseItemF.listLoop (fuel + 1) count acc ⟨tk .ellipsis [46, 46, 46] :: rest, E, W, N, e, false⟩ =
      parseItemF.listLoop fuel (count + 1) (.str ([46, 46, 46, 91] ++ decDigits e ++ [93]) :: acc)
        ⟨rest, E, W, N, e + 1, false⟩ := by
  rw [parseItemF.listLoop]
  have hc0 : (count == 0) = false := by simpa using hc
  have hnw : (([46, 46, 46] : Bytes) != [46, 46, 46]) = false := by decide
  simp only [PS.peek, PS.pop, tk, hc0, Bool.false_eq_true, if_false, hnw, Bool.false_and]
  rfl

end

section
variable (E W : List Diag) (N : List Name) (e : Nat)

theorem decl_list (xs : Slots) (hlen : xs.len < 2 ^ 63) :
    Decl (if xs.hasVar then [] else [sizeTok xs.len]) (if xs.hasVar then 0 else xs.len) (if xs.hasVar then -1 else xs.len) := by
  split
  · exact Or.inl ⟨rfl, rfl, rfl⟩
  · exact decl_sizeTok _ hlen

theorem dispatch_int (d : Bytes) (w : Nat) : dispatch (73 :: d) w = mkInt w := by
  funext gs; simp [dispatch]

theorem dispatch_uint (d : Bytes) (w : Nat) : dispatch (85 :: d) w = mkUint w := by
  funext gs; simp [dispatch]

end

theorem count_lt_of_mul_le {n w : Nat} (hw : 0 < w) (h : n * w ≤ maxByteSize) : n < 2 ^ 63 :=
  Nat.lt_of_le_of_lt (Nat.le_trans (Nat.le_mul_of_pos_right n hw) h) (by decide)

section
variable (E W : List Diag) (N : List Name) (e : Nat)

theorem parseLeaf_printed (t : Tmpl) (hleaf : t.isList = false) (fuel : Nat) (rest : List Tok) (e' : Nat)
    (hl : (itemToks t).length ≤ fuel) (hw : t.wf = true) (hc : cleanT t = true) (hfresh : FreshT N t)
    (hell : ellAfter e t = some e') :
    parseItemF fuel ⟨itemToks t ++ rest, E, W, N, e, false⟩ = (.ok t, ⟨rest, E, W, namesAfter N t, e', false⟩) := by
  obtain ⟨n, rfl⟩ : ∃ n, fuel = n + 1 :=
    ⟨fuel - 1, by obtain ⟨ts, hts⟩ := itemToks_cons t hc; rw [hts] at hl; simp at hl; omega⟩
  have he : e = e' := by cases t <;> first | simpa [ellAfter] using hell | simp [Tmpl.isList] at hleaf
  subst he
  have hwf := hw
  cases t with
  | list xs => simp [Tmpl.isList] at hleaf
  | empty => simp [cleanT] at hc
  | float w zs => simp [cleanT] at hc
  | ascii sv =>
    by_cases hemp : sv.isEmpty = true
    · have hnil : sv = [] := by simpa using hemp
      subst hnil
      exact parseItem_ascii E W N e n [] hw rest [sizeTok 0] 0 0 (decl_sizeTok 0 (by decide)) (by decide)
    · have htoks : itemToks (.ascii sv) ++ rest =
          tk .lab [60] :: tk .itemType [65] :: ([] ++ (asciiSegs [] sv ++ tk .rab [62] :: rest)) := by simp [itemToks, hemp]
      rw [htoks]
      exact parseItem_ascii E W N e n sv hw rest [] 0 (-1) (Or.inl ⟨rfl, rfl, rfl⟩) (by simp [sizeOk])
  | asciiVar nm mn mx =>
    simp only [cleanT, Bool.and_eq_true, decide_eq_true_eq] at hc
    have htoks : itemToks (.asciiVar nm mn mx) ++ rest =
        tk .lab [60] :: tk .itemType [65] :: (boundsToks mn mx ++ (tk .variable nm :: tk .rab [62] :: rest)) := by
      simp [itemToks]
    rw [htoks]
    exact parseItem_asciiVar E W N e n nm mn mx hw hc.1 hc.2 rest (by simpa [FreshT] using hfresh)
  | binary zs =>
    simp only [Tmpl.wf, Bool.and_eq_true, decide_eq_true_eq] at hwf
    obtain ⟨hv, _⟩ := slotsOk_mem _ zs hwf.2
    exact parseItem_array E W N e n [66] _ (fun (v : Nat) => GoVal.sint 0 v) zs (.binary zs) rest (by decide) (by decide)
      (by unfold maxByteSize at hwf; omega) rfl (fun a _ => rfl)
      (fun a ha => ⟨(fun h => by cases h), fun s' => arrayArg_binary a (by simpa using hv a ha) s'⟩)
      hfresh (rebuild_binary zs hw)
  | boolean zs =>
    simp only [Tmpl.wf, Bool.and_eq_true, decide_eq_true_eq] at hwf
    exact parseItem_array E W N e n [66, 79, 79, 76, 69, 65, 78] _ GoVal.bool zs (.boolean zs) rest (by decide) (by decide)
      (by unfold maxByteSize at hwf; omega) rfl (fun a _ => rfl)
      (fun a _ => ⟨(fun h => by cases h), fun s' => arrayArg_bool a s'⟩)
      hfresh (rebuild_bool zs hw)
  | int w zs =>
    simp only [Tmpl.wf, Bool.and_eq_true, decide_eq_true_eq] at hwf
    have hw4 := validWidthInt_iff.mp hwf.1.1
    obtain ⟨hv, _⟩ := slotsOk_mem _ zs hwf.2
    have hd : decDigits w = [48 + w] := decDigits_small w (by omega)
    have hwt : widthOfType (73 :: decDigits w) = w := widthOfType_int w hw4 73
    exact parseItem_array E W N e n (73 :: decDigits w) _ (GoVal.sint 64) zs (.int w zs) rest (by rw [hd]; simp) (by rw [hd]; simp)
      (count_lt_of_mul_le (by omega) hwf.1.2) rfl (fun a _ => rfl)
      (fun a ha => ⟨(fun h => by cases h), fun s' => by rw [hwt]; exact arrayArg_int w hw4 a (hv a ha) s'⟩)
      hfresh (by rw [hwt, dispatch_int]; exact rebuild_int w zs hw)
  | uint w zs =>
    simp only [Tmpl.wf, Bool.and_eq_true, decide_eq_true_eq] at hwf
    have hw4 := validWidthInt_iff.mp hwf.1.1
    obtain ⟨hv, _⟩ := slotsOk_mem _ zs hwf.2
    have hd : decDigits w = [48 + w] := decDigits_small w (by omega)
    have hwt : widthOfType (85 :: decDigits w) = w := widthOfType_int w hw4 85
    exact parseItem_array E W N e n (85 :: decDigits w) _ (GoVal.uint 64) zs (.uint w zs) rest (by rw [hd]; simp) (by rw [hd]; simp)
      (count_lt_of_mul_le (by omega) hwf.1.2) rfl (fun a _ => rfl)
      (fun a ha => ⟨(fun h => by cases h), fun s' => by rw [hwt]; exact arrayArg_uint w hw4 a (hv a ha) s'⟩)
      hfresh (by rw [hwt, dispatch_uint]; exact rebuild_uint w zs hw)

end

mutual
theorem parseItem_printed (t : Tmpl) (fuel : Nat) (rest : List Tok) (E W : List Diag) (N : List Name) (e e' : Nat)
    (hl : (itemToks t).length ≤ fuel) (hw : t.wf = true) (hc : cleanT t = true) (hfresh : FreshT N t)
    (hell : ellAfter e t = some e') :
    parseItemF fuel ⟨itemToks t ++ rest, E, W, N, e, false⟩ = (.ok t, ⟨rest, E, W, namesAfter N t, e', false⟩) := by
  cases t with
  | list xs =>
    obtain ⟨hmax, hwfAll, hown, _⟩ := wf_list_iff.mp hw
    have hlen : xs.len < 2 ^ 63 := by unfold maxByteSize at hmax; omega
    obtain ⟨n, rfl⟩ : ∃ n, fuel = n + 1 := ⟨fuel - 1, by simp [itemToks] at hl; omega⟩
    have hll := listLoop_printed xs n 0 [] false rest E W N e e'
      (by simp only [itemToks, List.length_append, List.length_cons, List.length_nil] at hl; split at hl <;> simp at hl <;> omega)
      hwfAll (by simpa [cleanT] using hc) hown (by simpa [FreshT] using hfresh) (by simpa [ellAfter] using hell)
    rw [List.reverse_nil, List.nil_append, rebuild_list xs hw] at hll
    have htoks : itemToks (.list xs) ++ rest = tk .lab [60] :: tk .itemType [76] ::
        ((if xs.hasVar then [] else [sizeTok xs.len]) ++ (slotsToks xs ++ tk .rab [62] :: rest)) := by simp [itemToks]
    rw [htoks]
    refine parseItemF_lab E W N e n _ _ _ (itemBody_printed E W N e _ [76] _ _ _ (decl_list xs hlen) _ rest
      (head_append_rab _ _ _ (fun t ht => ?_) ⟨by decide, by decide⟩) _ _ e' hll (Or.inr ?_))
    · cases hst : slotsToks xs with
      | nil => rw [hst] at ht; simp at ht
      | cons a l =>
        rw [hst] at ht; simp at ht; subst ht
        rcases slotsToks_head_kind xs (by simpa [cleanT] using hc) a l hst with h | h | h <;> rw [h] <;>
          exact ⟨by decide, by decide⟩
    · show sizeOk (xs.len : Int) _ _ = true
      split <;> simp [sizeOk]
  | _ => exact parseLeaf_printed E W N e _ rfl fuel rest e' hl hw hc hfresh hell

theorem listLoop_printed (xs : Slots) (fuel count : Nat) (acc : List GoVal) (eSeen : Bool) (rest : List Tok)
    (E W : List Diag) (N : List Name) (e e' : Nat)
    (hl : (slotsToks xs).length + 1 ≤ fuel) (hwa : xs.wfAll = true) (hca : cleanS xs = true)
    (hown : listOwnOk xs count eSeen = true) (hfresh : FreshS N xs) (hell : ellAfterS e xs = some e') :
    parseItemF.listLoop fuel count acc ⟨slotsToks xs ++ tk .rab [62] :: rest, E, W, N, e, false⟩ =
      (ofFactory (mkList (acc.reverse ++ slotArgs xs)), ⟨tk .rab [62] :: rest, E, W, namesAfterS N xs, e', false⟩) := by
  obtain ⟨n, rfl⟩ : ∃ n, fuel = n + 1 := ⟨fuel - 1, by omega⟩
  cases xs with
  | nil =>
    have he : e' = e := by simpa [ellAfterS] using hell.symm
    subst he
    simp only [slotsToks, List.nil_append, listLoop_rab, slotArgs, namesAfterS, List.append_nil]
  | item t r =>
    simp only [Slots.wfAll, Bool.and_eq_true] at hwa
    simp only [cleanS, Bool.and_eq_true] at hca
    simp only [FreshS] at hfresh
    simp only [ellAfterS] at hell
    obtain ⟨ts, hts⟩ := itemToks_cons t hca.1
    have hlt : 1 ≤ (itemToks t).length := by rw [hts]; simp
    have hlen : (slotsToks (.item t r)).length = (itemToks t).length + (slotsToks r).length := by simp [slotsToks]
    cases hk1 : ellAfter e t with
    | none => simp [hk1] at hell
    | some k1 =>
      simp only [hk1, Option.bind_some] at hell
      have hitem := parseItem_printed t n (slotsToks r ++ tk .rab [62] :: rest) E W N e k1 (by omega) hwa.1 hca.1 hfresh.1 hk1
      have hrest := listLoop_printed r n (count + 1) (.item t :: acc) eSeen rest E W (namesAfter N t) k1 e' (by omega)
        hwa.2 hca.2 (by simpa [listOwnOk] using hown) hfresh.2 hell
      have htoks : slotsToks (.item t r) ++ tk .rab [62] :: rest = itemToks t ++ (slotsToks r ++ tk .rab [62] :: rest) := by
        simp [slotsToks]
      rw [htoks, listLoop_lab n count acc _ (by simp [PS.peek, hts]) t _ hitem, hrest]
      simp [slotArgs, namesAfterS]
  | var nm r =>
    simp only [Slots.wfAll] at hwa
    simp only [cleanS] at hca
    have hlr : (slotsToks r).length + 1 ≤ n := by simp only [slotsToks, List.length_cons] at hl; omega
    by_cases hn : isEllipsis nm = true
    · -- an ellipsis, printed as `...`: the parser gives it the next number, which is the one it has
      obtain ⟨hcount, hown'⟩ := listOwnOk_ellipsis_pos nm r count eSeen hn hown
      simp only [FreshS, hn, if_true] at hfresh
      simp only [ellAfterS, hn, if_true] at hell
      by_cases hname : (nm == [46, 46, 46, 91] ++ decDigits e ++ [93]) = true
      · rw [if_pos hname] at hell
        have hname' : nm = [46, 46, 46, 91] ++ decDigits e ++ [93] := by simpa using hname
        have hrest := listLoop_printed r n (count + 1) (.str nm :: acc) true rest E W N (e + 1) e' hlr hwa hca hown' hfresh hell
        have htoks : slotsToks (.var nm r) ++ tk .rab [62] :: rest =
            tk .ellipsis [46, 46, 46] :: (slotsToks r ++ tk .rab [62] :: rest) := by simp [slotsToks, hn]
        rw [htoks, listLoop_ell E W N e n count acc _ hcount, ← hname', hrest]
        simp [slotArgs, namesAfterS, hn]
      · rw [if_neg hname] at hell; cases hell
    · have hn' : isEllipsis nm = false := by simpa using hn
      simp only [FreshS, hn', Bool.false_eq_true, if_false] at hfresh
      simp only [ellAfterS, hn', Bool.false_eq_true, if_false] at hell
      have hrest := listLoop_printed r n (count + 1) (.str nm :: acc) eSeen rest E W (nm :: N) e e' hlr hwa hca
        (listOwnOk_plain nm r count eSeen hn' hown) hfresh.2 hell
      have htoks : slotsToks (.var nm r) ++ tk .rab [62] :: rest =
          tk .variable nm :: (slotsToks r ++ tk .rab [62] :: rest) := by simp [slotsToks, hn']
      rw [htoks, listLoop_var E W N e n count acc _ nm hfresh.1, hrest]
      simp [slotArgs, namesAfterS, hn']
end

/-- **Parser half of the print → parse round trip for items.** Parsing the printed tokens of a
well-formed, float-free tree whose names are new and whose ellipses are numbered in order gives
the tree back, consumes exactly its tokens, and leaves the names and the ellipsis counter as
the tree dictates. -/
theorem parse_toks : ∀ fuel : Nat,
    (∀ (t : Tmpl) (s : PS) (rest : List Tok) (e' : Nat), (itemToks t).length ≤ fuel → t.wf = true → cleanT t = true →
      s.toks = itemToks t ++ rest → s.skipSize = false → FreshT s.names t → ellAfter s.ell t = some e' →
      parseItemF fuel s = (.ok t, { s with toks := rest, names := namesAfter s.names t, ell := e' })) ∧
    (∀ (xs : Slots) (count : Nat) (acc : List GoVal) (eSeen : Bool) (s : PS) (rest : List Tok) (e' : Nat),
      (slotsToks xs).length + 1 ≤ fuel → xs.wfAll = true → cleanS xs = true → listOwnOk xs count eSeen = true →
      s.toks = slotsToks xs ++ tk .rab [62] :: rest → s.skipSize = false → FreshS s.names xs → ellAfterS s.ell xs = some e' →
      parseItemF.listLoop fuel count acc s =
        (ofFactory (mkList (acc.reverse ++ slotArgs xs)),
          { s with toks := tk .rab [62] :: rest, names := namesAfterS s.names xs, ell := e' })) := by
  intro fuel
  constructor
  · intro t s rest e' hl hw hc hs hskip hfresh hell
    cases s
    subst hs hskip
    exact parseItem_printed t fuel rest _ _ _ _ e' hl hw hc hfresh hell
  · intro xs count acc eSeen s rest e' hl hwa hca hown hs hskip hfresh hell
    cases s
    subst hs hskip
    exact listLoop_printed xs fuel count acc eSeen rest _ _ _ _ e' hl hwa hca hown hfresh hell

def sfTok (st fn : Nat) : Tok := tk .streamFunction (83 :: (decDigits st ++ 70 :: decDigits fn))

theorem streamFunction_sf (s : PS) (st fn : Nat) (hst : st < 128) (hfn : fn < 256) :
    streamFunction s (sfTok st fn) = ((st : Int), (fn : Int), s) := by
  have hi : indexByte 70 (sfTok st fn).val = some ((decDigits st).length + 1) := by
    have h83 : ((83 : Nat) == 70) = false := by decide
    simp only [indexByte, sfTok, tk, Lex.indexOf, h83, Bool.false_eq_true, if_false, Option.map_some,
      C15.indexOf_digits_then 70 (by decide) (decDigits st) (decDigits fn) (decDigits_spec st).1]
  have h1 : List.drop 1 (List.take ((decDigits st).length + 1) (sfTok st fn).val) = decDigits st := by
    simp [sfTok, tk]
  have h2 : List.drop ((decDigits st).length + 1 + 1) (sfTok st fn).val = decDigits fn := by
    simp [sfTok, tk]
  have c1 : (decide ((0 : Int) ≤ (st : Int)) && decide ((st : Int) < 128)) = true := by
    simp; omega
  have c2 : (decide ((0 : Int) ≤ (fn : Int)) && decide ((fn : Int) < 256)) = true := by
    simp; omega
  simp only [streamFunction, hi, Option.getD_some, h1, h2, atoi_decDigits st (by omega), atoi_decDigits fn (by omega),
    c1, c2, if_true]

/-- the tokens of a printed message -/
def msgToks (m : Msg) : List Tok :=
  sfTok m.stream.toNat m.function.toNat ::
    ((if m.waitBit == 1 then [tk .waitBit [87]] else if m.waitBit == 2 then [tk .waitBit [91, 87, 93]] else []) ++
     tk .direction m.direction :: ((if m.name.isEmpty then [] else [tk .msgName m.name]) ++
      (itemToks m.item ++ [tk .msgEnd [46]])))

/-- what a printed message can say about a message: everything but the session -/
def unaddressed (m : Msg) : Msg := { m with sessionID := -1, sysBytes := [0, 0, 0, 0] }

theorem mkMsg_valid (m : Msg) (h : m.valid = true) :
    mkMsg m.name m.stream m.function m.waitBit m.direction m.item = some (unaddressed m) := by
  obtain ⟨hn, hst, hfn, hwf, hwb, _, _, hdir⟩ := (Msg.valid_iff m).mp h
  exact checked_eq_some.mpr ⟨(Msg.valid_iff _).mpr ⟨hn, hst, hfn, hwf, hwb, show (-1 : Int) ≤ -1 ∧ (-1 : Int) < 65536 by decide, rfl, hdir⟩, rfl⟩

/-- the item of a message the printed form can express: nothing, or a clean well-formed tree with
distinct names and its ellipses numbered in order -/
def ItemOK (it : Tmpl) (e' : Nat) : Prop :=
  (it = .empty ∧ e' = 0) ∨ (it.wf = true ∧ cleanT it = true ∧ FreshT [] it ∧ ellAfter 0 it = some e')

def eofTok : Tok := tk .eof [69, 79, 70]

theorem itemToks_head_not_name (it : Tmpl) (e' : Nat) (hok : ItemOK it e') (r : List Tok) :
    ∀ t ∈ (itemToks it ++ tk .msgEnd [46] :: r).head?, t.kind ≠ .msgName := by
  intro t ht
  rcases hok with ⟨rfl, _⟩ | ⟨_, hc, _, _⟩
  · simp [itemToks] at ht; subst ht; decide
  · obtain ⟨ts, hts⟩ := itemToks_cons it hc
    rw [hts] at ht; simp at ht; subst ht; decide

section
variable (E W : List Diag) (N : List Name) (e : Nat)

theorem waitBitOf_printed (fn wb : Int) (hwb : wb = 0 ∨ wb = 1 ∨ wb = 2) (hodd : wb = 1 → fn % 2 ≠ 0)
    (d : Tok) (r : List Tok) (hd : d.kind = .direction) :
    waitBitOf fn ⟨(if wb == 1 then [tk .waitBit [87]] else if wb == 2 then [tk .waitBit [91, 87, 93]] else []) ++ d :: r,
        E, W, N, e, false⟩ = (wb, ⟨d :: r, E, W, N, e, false⟩) := by
  rcases hwb with rfl | rfl | rfl
  · have h2 : (d.kind == Kind.waitBit) = false := by rw [hd]; rfl
    simp [waitBitOf, PS.peek, h2]
  · have h3 : (fn % 2 == 0) = false := by simpa using hodd rfl
    simp [waitBitOf, PS.peek, PS.pop, tk, h3]
  · simp [waitBitOf, PS.peek, PS.pop, tk]

theorem directionOf_printed (dir : Bytes) (r : List Tok) :
    directionOf ⟨tk .direction dir :: r, E, W, N, e, false⟩ = (dir, ⟨r, E, W, N, e, false⟩) := rfl

theorem nameOf_printed (name : Bytes) (rest : List Tok) (hnx : ∀ t ∈ rest.head?, t.kind ≠ .msgName) :
    nameOf ⟨(if name.isEmpty then [] else [tk .msgName name]) ++ rest, E, W, N, e, false⟩ =
      (name, ⟨rest, E, W, N, e, false⟩) := by
  by_cases he : name.isEmpty = true
  · have hn : name = [] := by simpa using he
    subst hn
    have hk : ((PS.peek ⟨rest, E, W, N, e, false⟩).kind == Kind.msgName) = false := by
      cases rest with
      | nil => rfl
      | cons t r =>
        have := hnx t rfl
        simp only [PS.peek]
        cases hk : t.kind <;> first | rfl | exact absurd hk this
    simp only [List.isEmpty_nil, if_true, List.nil_append, nameOf, hk, Bool.false_eq_true, if_false]
  · simp only [he, Bool.false_eq_true, if_false]
    rfl

theorem msgItem_printed (it : Tmpl) (e' : Nat) (hok : ItemOK it e') (r : List Tok) :
    msgItem ⟨itemToks it ++ tk .msgEnd [46] :: r, E, W, [], 0, false⟩ =
      (.ok it, ⟨tk .msgEnd [46] :: r, E, W, namesAfter [] it, e', false⟩) := by
  rcases hok with ⟨rfl, rfl⟩ | ⟨hw, hc, hf, hel⟩
  · rfl
  · obtain ⟨ts, hts⟩ := itemToks_cons it hc
    have hp : PS.peek ⟨itemToks it ++ tk .msgEnd [46] :: r, E, W, [], 0, false⟩ = tk .lab [60] := by rw [hts]; rfl
    have h1 : ((tk Kind.lab [60]).kind == Kind.msgEnd) = false := rfl
    have h2 : ((tk Kind.lab [60]).kind == Kind.lab) = true := rfl
    simp only [msgItem, hp, h1, h2, Bool.false_eq_true, if_false, if_true]
    exact parseItem_printed it _ _ E W [] 0 e' (by simp; omega) hw hc hf hel

theorem parseMessage_printed (m : Msg) (hv : m.valid = true) (e' : Nat) (hok : ItemOK m.item e') (r : List Tok) :
    parseMessage ⟨msgToks m ++ r, E, W, N, e, false⟩ =
      (some (some (unaddressed m)), ⟨r, E, W, namesAfter [] m.item, e', false⟩) := by
  obtain ⟨_, hst, hfn, hwf, hwb, _, _, _⟩ := (Msg.valid_iff m).mp hv
  have hst' : ((m.stream.toNat : Nat) : Int) = m.stream := by omega
  have hfn' : ((m.function.toNat : Nat) : Int) = m.function := by omega
  have htoks : msgToks m ++ r = sfTok m.stream.toNat m.function.toNat ::
      ((if m.waitBit == 1 then [tk .waitBit [87]] else if m.waitBit == 2 then [tk .waitBit [91, 87, 93]] else []) ++
        tk .direction m.direction :: ((if m.name.isEmpty then [] else [tk .msgName m.name]) ++
          (itemToks m.item ++ tk .msgEnd [46] :: r))) := by simp [msgToks]
  have hk : ((sfTok m.stream.toNat m.function.toNat).kind != Kind.streamFunction) = false := rfl
  have hme : ((tk Kind.msgEnd [46]).kind != Kind.msgEnd) = false := rfl
  rw [htoks]
  simp only [parseMessage, PS.resetScope, PS.peek, PS.pop, List.drop_succ_cons, List.drop_zero, hk, Bool.false_eq_true,
    if_false, streamFunction_sf _ _ _ (show m.stream.toNat < 128 by omega) (show m.function.toNat < 256 by omega), hst', hfn',
    waitBitOf_printed E W [] 0 m.function m.waitBit (by omega) (fun h1 h2 => hwf ⟨h1, h2⟩) (tk .direction m.direction) _ rfl,
    directionOf_printed, nameOf_printed E W [] 0 m.name _ (itemToks_head_not_name m.item e' hok r),
    msgItem_printed E W m.item e' hok r, finishMsg, hme, mkMsg_valid m hv]

theorem msgToks_cons (m : Msg) : ∃ ts, msgToks m = sfTok m.stream.toNat m.function.toNat :: ts := ⟨_, rfl⟩

theorem parseLoop_printed : ∀ (ms : List Msg) (fuel : Nat) (acc : List Msg) (N : List Name) (e : Nat),
    (∀ m ∈ ms, m.valid = true ∧ ∃ e', ItemOK m.item e') → (ms.flatMap msgToks).length < fuel →
    ∃ N' e', parseLoop fuel ⟨ms.flatMap msgToks ++ [eofTok], E, W, N, e, false⟩ acc =
      some (acc.reverse ++ ms.map unaddressed, ⟨[eofTok], E, W, N', e', false⟩)
  | _, 0 => fun _ _ _ _ hf => by omega
  | [], _ + 1 => fun acc N e _ _ => ⟨N, e, by
      have hk : ((PS.peek ⟨[eofTok], E, W, N, e, false⟩).kind == Kind.eof) = true := rfl
      simp [parseLoop, hk]⟩
  | m :: r, fuel + 1 => fun acc N e hall hf => by
    obtain ⟨hv, e', hok⟩ := hall m (by simp)
    obtain ⟨N', e'', h⟩ := parseLoop_printed r fuel (unaddressed m :: acc) (namesAfter [] m.item) e'
      (fun x hx => hall x (by simp [hx])) (by
        obtain ⟨ts, hts⟩ := msgToks_cons m
        simp only [List.flatMap_cons, hts, List.length_append, List.length_cons] at hf
        omega)
    refine ⟨N', e'', ?_⟩
    have htoks : (m :: r).flatMap msgToks ++ [eofTok] = msgToks m ++ (r.flatMap msgToks ++ [eofTok]) := by simp
    have hk : ((PS.peek ⟨msgToks m ++ (r.flatMap msgToks ++ [eofTok]), E, W, N, e, false⟩).kind == Kind.eof) = false := rfl
    rw [htoks, parseLoop]
    simp only [hk, Bool.false_eq_true, if_false, parseMessage_printed E W N e m hv e' hok, h]
    simp

end

theorem parseToks_printed (ms : List Msg) (hall : ∀ m ∈ ms, m.valid = true ∧ ∃ e', ItemOK m.item e') :
    parseToks (ms.flatMap msgToks ++ [eofTok]) = .done (ms.map unaddressed) [] [] := by
  obtain ⟨N', e', h⟩ := parseLoop_printed [] [] ms ((ms.flatMap msgToks ++ [eofTok]).length + 1) [] [] 0 hall
    (by rw [List.length_append]; omega)
  unfold parseToks
  rw [show ({ toks := ms.flatMap msgToks ++ [eofTok] } : PS) = ⟨ms.flatMap msgToks ++ [eofTok], [], [], [], 0, false⟩ from rfl, h]
  rfl

theorem nodup_append (a b : List Name) (h : nodupNames (a ++ b) = true) :
    nodupNames a = true ∧ nodupNames b = true ∧ ∀ v ∈ a, v ∉ b := by
  obtain ⟨ha, hb, hd⟩ := List.nodup_append.mp ((nodupNames_iff _).mp h)
  exact ⟨(nodupNames_iff a).mpr ha, (nodupNames_iff b).mpr hb, fun v hv hvb => hd v hv v hvb rfl⟩

theorem contains_false_iff (l : List Name) (v : Name) : l.contains v = false ↔ v ∉ l := by simp

theorem fresh_slots (vs names : List Name) (hn : nodupNames vs = true) (hd : ∀ v ∈ vs, v ∉ names) :
    Fresh vs names ∧ ∀ v, v ∈ vs.reverse ++ names → v ∈ names ∨ v ∈ vs :=
  ⟨⟨hn, fun v hv => (contains_false_iff _ _).mpr (hd v hv)⟩, fun v hv => by
    simp only [List.mem_append, List.mem_reverse] at hv
    exact hv.symm⟩

mutual
theorem fresh_of_nodup : ∀ (t : Tmpl) (names : List Name), cleanT t = true → nodupNames t.vars = true →
    (∀ v ∈ t.vars, v ∉ names) →
    FreshT names t ∧ (∀ v, v ∈ namesAfter names t → v ∈ names ∨ v ∈ t.vars)
  | .list xs, names, hc, hn, hd => by
    simpa [FreshT, namesAfter, Tmpl.vars] using freshS_of_nodup xs names (by simpa [cleanT] using hc)
      (by simpa [Tmpl.vars] using hn) (by simpa [Tmpl.vars] using hd)
  | .ascii _, names, _, _, _ => ⟨trivial, fun v hv => Or.inl hv⟩
  | .asciiVar n _ _, names, _, _, hd => by
    refine ⟨?_, ?_⟩
    · simp only [FreshT, contains_false_iff]; exact hd n (by simp [Tmpl.vars])
    · intro v hv
      simp only [namesAfter, List.mem_cons] at hv
      rcases hv with rfl | hv
      · right; simp [Tmpl.vars]
      · left; exact hv
  | .binary xs, names, _, hn, hd | .boolean xs, names, _, hn, hd | .int _ xs, names, _, hn, hd
  | .uint _ xs, names, _, hn, hd => fresh_slots (slotVars xs) names hn hd
  | .float _ xs, names, hc, _, _ | .empty, names, hc, _, _ => by simp [cleanT] at hc

theorem freshS_of_nodup : ∀ (xs : Slots) (names : List Name), cleanS xs = true → nodupNames xs.vars = true →
    (∀ v ∈ xs.vars, v ∉ names) →
    FreshS names xs ∧ (∀ v, v ∈ namesAfterS names xs → v ∈ names ∨ v ∈ xs.vars)
  | .nil => fun names _ _ _ => ⟨trivial, fun v hv => Or.inl hv⟩
  | .item t r => fun names hc hn hd => by
    simp only [cleanS, Bool.and_eq_true] at hc
    have hvars : (Slots.item t r).vars = t.vars ++ r.vars := by
      cases t <;> first | rfl | (simp [cleanT] at hc)
    rw [hvars] at hn hd
    obtain ⟨hn1, hn2, hdis⟩ := nodup_append _ _ hn
    obtain ⟨ft, mt⟩ := fresh_of_nodup t names hc.1 hn1 (fun v hv => hd v (by simp [hv]))
    have hd2 : ∀ v ∈ r.vars, v ∉ namesAfter names t := by
      intro v hv hmem
      rcases mt v hmem with h | h
      · exact hd v (by simp [hv]) h
      · exact hdis v h hv
    obtain ⟨fr, mr⟩ := freshS_of_nodup r (namesAfter names t) hc.2 hn2 hd2
    refine ⟨⟨ft, fr⟩, ?_⟩
    intro v hv
    simp only [namesAfterS] at hv
    rw [hvars]
    rcases mr v hv with h | h
    · rcases mt v h with h' | h'
      · left; exact h'
      · right; simp [h']
    · right; simp [h]
  | .var n r => fun names hc hn hd => by
    simp only [cleanS] at hc
    simp only [Slots.vars, nodupNames, Bool.and_eq_true, Bool.not_eq_true'] at hn
    have hnr : n ∉ r.vars := (contains_false_iff _ _).mp hn.1
    by_cases he : isEllipsis n = true
    · obtain ⟨fr, mr⟩ := freshS_of_nodup r names hc hn.2 (fun v hv => hd v (by simp [Slots.vars, hv]))
      refine ⟨by simpa [FreshS, he] using fr, ?_⟩
      intro v hv
      simp only [namesAfterS, he, if_true] at hv
      rcases mr v hv with h | h
      · left; exact h
      · right; simp [Slots.vars, h]
    · have he' : isEllipsis n = false := by simpa using he
      have hd2 : ∀ v ∈ r.vars, v ∉ n :: names := by
        intro v hv hmem
        rcases List.mem_cons.mp hmem with rfl | h
        · exact hnr hv
        · exact hd v (by simp [Slots.vars, hv]) h
      obtain ⟨fr, mr⟩ := freshS_of_nodup r (n :: names) hc hn.2 hd2
      refine ⟨?_, ?_⟩
      · simp only [FreshS, he', Bool.false_eq_true, if_false, contains_false_iff]
        exact ⟨hd n (by simp [Slots.vars]), fr⟩
      · intro v hv
        simp only [namesAfterS, he', Bool.false_eq_true, if_false] at hv
        rcases mr v hv with h | h
        · rcases List.mem_cons.mp h with rfl | h'
          · right; simp [Slots.vars]
          · left; exact h'
        · right; simp [Slots.vars, h]
end

/-- for a well-formed tree every name is new to an empty table -/
theorem freshT_nil (t : Tmpl) (hw : t.wf = true) (hc : cleanT t = true) : FreshT [] t :=
  (fresh_of_nodup t [] hc (wfS_vars_nodup t (wfS_of_wf t hw)) (by simp)).1

theorem itemOK_of_wf (it : Tmpl) (h : it = .empty ∨ (it.wf = true ∧ cleanT it = true ∧ ∃ e, ellAfter 0 it = some e)) :
    ∃ e', ItemOK it e' := by
  rcases h with he | ⟨hw, hc, e, hel⟩
  · exact ⟨0, Or.inl ⟨he, rfl⟩⟩
  · exact ⟨e, Or.inr ⟨hw, hc, freshT_nil it hw hc, hel⟩⟩

end Sml
end Secs
