/- The decoder is complete and sound for the lenient reading relation `Spec.Denotes` (C03); the
strict relation `Spec.Encodes` is the reading with the fewest length bytes, and every reading has
a strict encoding, so what is known of one relation carries over to the other; the encode/decode
round trip (C01, C13) and the size bounds of encodings follow. -/
import SecsModel.Proofs.Wire
import SecsModel.Spec.Denotes
namespace Secs
open Spec

/-- an item width is positive (`omega` would go through the cases again at each use) -/
theorem width_pos {w : Nat} (h : (w = 1 ∨ w = 2 ∨ w = 4 ∨ w = 8) ∨ (w = 4 ∨ w = 8)) : 0 < w := by
  rcases h with (rfl | rfl | rfl | rfl) | (rfl | rfl) <;> decide

mutual
/-- completeness: whatever bytes denote an item (minimal length bytes or not), the decoder
returns exactly that item and leaves the rest untouched -/
theorem dec_complete (t : Tmpl) (p : Bytes) (h : Denotes p t) (rest : Bytes) (fuel : Nat) (hf : t.sz ≤ fuel) :
    decItem fuel (p ++ rest) = some (t, rest) := by
  cases fuel with
  | zero => cases t <;> simp [Tmpl.sz] at hf
  | succ fuel =>
    cases h with
    | list k xs q hk hall =>
      have hd := decs_complete xs q hall rest fuel (by simp [Tmpl.sz] at hf; omega)
      rw [List.append_assoc, decItem_headerK 0 k _ hk, show decodeFmt? 0 = some Fmt.list from rfl]
      simp only [hd, Option.map]
    | ascii k s hk hc =>
      exact decItem_leaf_k .ascii (by simp) k _ hk s _ rfl
        (by simp only [decPayload]; rw [if_pos]; simpa using hc) rest fuel
    | binary k vs hk hv => exact decItem_leaf_k .binary (by simp) k _ hk vs _ rfl rfl rest fuel
    | boolean k bs hk => exact decItem_leaf_k .boolean (by simp) k _ hk bs _ rfl rfl rest fuel
    | int w code k vs hcode hk hr =>
      rw [intCode_eq, Option.map_eq_some_iff] at hcode
      obtain ⟨f, hf, rfl⟩ := hcode
      obtain ⟨_, hfl, hw4⟩ := intFmt_width w f hf
      obtain ⟨hlen, hch⟩ := twos_payload w (width_pos (.inl hw4)) vs hr
      refine decItem_leaf_k f hfl k _ hk _ _ hlen ?_ rest fuel
      rw [decPayload_intFmt w f hf, hlen, Nat.mul_mod_left, if_neg (by decide)]
      conv => rhs; rw [← hch, List.map_map]
      rfl
    | uint w code k vs hcode hk hr =>
      rw [uintCode_eq, Option.map_eq_some_iff] at hcode
      obtain ⟨f, hf, rfl⟩ := hcode
      obtain ⟨_, hfl, hw4⟩ := uintFmt_width w f hf
      obtain ⟨hlen, hch⟩ := be_payload w (width_pos (.inl hw4)) vs hr
      refine decItem_leaf_k f hfl k _ hk _ _ hlen ?_ rest fuel
      rw [decPayload_uintFmt w f hf, hlen, Nat.mul_mod_left, if_neg (by decide)]
      conv => rhs; rw [← hch, List.map_map]
      rfl
    | float w code k vs hcode hk hr =>
      rw [floatCode_eq, Option.map_eq_some_iff] at hcode
      obtain ⟨f, hf, rfl⟩ := hcode
      obtain ⟨_, hfl, hw4⟩ := floatFmt_width w f hf
      obtain ⟨hlen, hch⟩ := be_payload w (width_pos (.inr hw4)) vs fun v hv => (hr v hv).1
      refine decItem_leaf_k f hfl k _ hk _ _ hlen ?_ rest fuel
      rw [decPayload_floatFmt w f hf, hlen, Nat.mul_mod_left, if_neg (by decide), hch,
        if_pos (List.all_eq_true.mpr fun v hv => (hr v hv).2)]

theorem decs_complete (xs : Slots) (p : Bytes) (h : DenotesAll p xs) (rest : Bytes) (fuel : Nat)
    (hf : xs.szs ≤ fuel) : decItems fuel xs.len (p ++ rest) = some (xs, rest) := by
  cases h with
  | nil => cases fuel <;> rfl
  | cons b q t r hb hq =>
    cases fuel with
    | zero => simp [Slots.szs] at hf
    | succ fuel =>
      simp only [Slots.len, List.append_assoc, decItems]
      rw [dec_complete t b hb (q ++ rest) fuel (by simp [Slots.szs] at hf; omega)]
      simp only [decs_complete r q hq rest fuel (by simp [Slots.szs] at hf; omega)]
end

theorem decPayload_denotes (f : Fmt) (hfl : f ≠ .list) (k : Nat) (p : Bytes) (t : Tmpl) (hp : IsBytes p)
    (hk : KOk k p.length) (hd : decPayload f p = some t) : Denotes (headerK f.code k p.length ++ p) t := by
  rcases Fmt.kinds f with rfl | rfl | rfl | rfl | hf | hf | hf
  · exact absurd rfl hfl
  · simp only [decPayload] at hd
    split at hd
    · rename_i hall
      cases hd
      exact Denotes.ascii k p hk (by simpa using hall)
    · cases hd
  · cases hd
    exact Denotes.binary k p hk hp
  · cases hd
    exact Denotes.boolean k p hk
  · generalize f.width = w at hf
    obtain ⟨_, _, hw4⟩ := intFmt_width w f hf
    rw [decPayload_intFmt w f hf] at hd
    split at hd
    · cases hd
    · rename_i hm
      cases hd
      obtain ⟨hl, hpay, hr⟩ := twos_chunks w (width_pos (.inl hw4)) p hp (by simpa using hm)
      have := Denotes.int w f.code k _ (by rw [intCode_eq, hf]; rfl) (hl.symm ▸ hk) hr
      rwa [hl, hpay, List.map_map] at this
  · generalize f.width = w at hf
    obtain ⟨_, _, hw4⟩ := uintFmt_width w f hf
    rw [decPayload_uintFmt w f hf] at hd
    split at hd
    · cases hd
    · rename_i hm
      cases hd
      obtain ⟨hl, hpay, hr⟩ := be_chunks w (width_pos (.inl hw4)) p hp (by simpa using hm)
      have := Denotes.uint w f.code k _ (by rw [uintCode_eq, hf]; rfl) (hl.symm ▸ hk) hr
      rwa [hl, hpay, List.map_map] at this
  · generalize f.width = w at hf
    obtain ⟨_, _, hw4⟩ := floatFmt_width w f hf
    rw [decPayload_floatFmt w f hf] at hd
    split at hd
    · cases hd
    · rename_i hm
      split at hd
      · rename_i hfin
        cases hd
        obtain ⟨hl, hpay, hr⟩ := be_chunks w (width_pos (.inr hw4)) p hp (by simpa using hm)
        have := Denotes.float w f.code k _ (by rw [floatCode_eq, hf]; rfl) (hl.symm ▸ hk)
          fun v hv => ⟨hr v hv, List.all_eq_true.mp hfin _ hv⟩
        rwa [hl, hpay] at this
      · cases hd

mutual
-- patterns on the analysed argument only, the rest by `fun`: a pattern over all arguments builds a matcher over each
/-- soundness: whatever the decoder returns is denoted by exactly the bytes it consumed -/
theorem dec_sound : ∀ (fuel : Nat) (inp : Bytes) (t : Tmpl) (r : Bytes),
    decItem fuel inp = some (t, r) → IsBytes inp → ∃ p, inp = p ++ r ∧ Denotes p t
  | 0 => fun _ _ _ h _ => by simp [decItem] at h
  | fuel + 1 => fun inp t r h hb => by
    obtain ⟨fb, lb, body, f, rfl, hl, hk, hf, h⟩ := decItem_some fuel inp t r h
    have hlb : IsBytes lb := fun b hm => hb b (by simp [hm])
    have hbody : IsBytes body := fun b hm => hb b (by simp [hm])
    have hkok : KOk (fb % 4) (beDec lb) := ⟨hk, Nat.le_of_lt_succ (Nat.mod_lt _ (by decide)), hl ▸ beDec_lt lb hlb⟩
    have hhead : fb :: lb = headerK f.code (fb % 4) (beDec lb) := by
      unfold headerK
      rw [decodeFmt_some _ _ hf, ← hl, beEnc_beDec lb hlb, hl]
      congr 1; omega
    rcases h with ⟨rfl, xs, hd, rfl⟩ | ⟨hne, p, rfl, hp, hd⟩
    · obtain ⟨p, rfl, hall, hlen⟩ := decs_sound fuel _ body xs r hd hbody
      refine ⟨fb :: lb ++ p, by simp, ?_⟩
      rw [hhead, ← hlen]
      exact Denotes.list _ xs p (hlen ▸ hkok) hall
    · refine ⟨fb :: lb ++ p, by simp, ?_⟩
      rw [hhead, ← hp]
      exact decPayload_denotes f hne _ p t (fun b hm => hbody b (by simp [hm])) (hp ▸ hkok) hd

theorem decs_sound : ∀ (fuel n : Nat) (inp : Bytes) (xs : Slots) (r : Bytes),
    decItems fuel n inp = some (xs, r) → IsBytes inp → ∃ p, inp = p ++ r ∧ DenotesAll p xs ∧ xs.len = n
  | _, 0 => fun inp xs r h _ => by
    rw [decItems_zero] at h
    simp only [Option.some.injEq, Prod.mk.injEq] at h
    exact ⟨[], by simp [h.2], h.1 ▸ DenotesAll.nil, h.1 ▸ rfl⟩
  | 0, _ + 1 => fun _ _ _ h _ => by simp [decItems] at h
  | fuel + 1, n + 1 => fun inp xs r h hb => by
    obtain ⟨x, r1, ys, h1, h2, rfl⟩ := decItems_succ_some fuel n inp xs r h
    obtain ⟨p1, rfl, hd1⟩ := dec_sound fuel inp x r1 h1 hb
    obtain ⟨p2, rfl, hd2, hl2⟩ := decs_sound fuel n r1 ys r h2 (fun b hm => hb b (by simp [hm]))
    exact ⟨p1 ++ p2, by simp, DenotesAll.cons p1 p2 x ys hd1 hd2, by simp [Slots.len, hl2]⟩
end

mutual
theorem encodes_denotes (t : Tmpl) (b : Bytes) (h : Encodes t b) : Denotes b t := by
  cases h with
  | list xs p hall hlen => exact Denotes.list _ xs p (kok_lenBytes _ hlen) (encodesAll_denotesAll xs p hall)
  | ascii s hc hlen => exact Denotes.ascii _ s (kok_lenBytes _ hlen) hc
  | binary vs hv hlen => exact Denotes.binary _ vs (kok_lenBytes _ hlen) hv
  | boolean vs hlen =>
    have := Denotes.boolean (lenBytes vs.length) (vs.map (fun b => if b then 1 else 0))
      (by rw [List.length_map]; exact kok_lenBytes _ hlen)
    rwa [List.map_map, List.length_map,
      show (fun b : Nat => Slot.val (b != 0)) ∘ (fun b : Bool => if b then 1 else 0) = Slot.val from
        funext fun b => by cases b <;> rfl] at this
  | int w code vs hcode hr hlen => exact Denotes.int w code _ vs hcode (kok_lenBytes _ hlen) hr
  | uint w code vs hcode hr hlen => exact Denotes.uint w code _ vs hcode (kok_lenBytes _ hlen) hr
  | float w code vs hcode hr hlen => exact Denotes.float w code _ vs hcode (kok_lenBytes _ hlen) hr

theorem encodesAll_denotesAll (xs : Slots) (p : Bytes) (h : EncodesAll xs p) : DenotesAll p xs := by
  cases h with
  | nil => exact DenotesAll.nil
  | cons t r b q hb hq => exact DenotesAll.cons b q t r (encodes_denotes t b hb) (encodesAll_denotesAll r q hq)
end

mutual
theorem denotes_encodes (p : Bytes) (t : Tmpl) (h : Denotes p t) : ∃ b, Encodes t b := by
  cases h with
  | list k xs q hk hall =>
    obtain ⟨b, hb⟩ := denotesAll_encodesAll q xs hall
    exact ⟨_, Encodes.list xs b hb (kok_limit _ _ hk)⟩
  | ascii k s hk hc => exact ⟨_, Encodes.ascii s hc (kok_limit _ _ hk)⟩
  | binary k vs hk hv => exact ⟨_, Encodes.binary vs hv (kok_limit _ _ hk)⟩
  | boolean k bs hk =>
    have := Encodes.boolean (bs.map (· != 0)) (by rw [List.length_map]; exact kok_limit _ _ hk)
    rw [List.map_map] at this
    exact ⟨_, this⟩
  | int w code k vs hcode hk hr => exact ⟨_, Encodes.int w code vs hcode hr (kok_limit _ _ hk)⟩
  | uint w code k vs hcode hk hr => exact ⟨_, Encodes.uint w code vs hcode hr (kok_limit _ _ hk)⟩
  | float w code k vs hcode hk hr => exact ⟨_, Encodes.float w code vs hcode hr (kok_limit _ _ hk)⟩

theorem denotesAll_encodesAll (p : Bytes) (xs : Slots) (h : DenotesAll p xs) : ∃ b, EncodesAll xs b := by
  cases h with
  | nil => exact ⟨_, EncodesAll.nil⟩
  | cons b q t r hb hq =>
    obtain ⟨b', hb'⟩ := denotes_encodes b t hb
    obtain ⟨q', hq'⟩ := denotesAll_encodesAll q r hq
    exact ⟨_, EncodesAll.cons t r b' q' hb' hq'⟩
end

theorem denotes_fun (p : Bytes) (t t' : Tmpl) (h : Denotes p t) (h' : Denotes p t') : t = t' := by
  have a := dec_complete t p h [] (t.sz + t'.sz) (Nat.le_add_right _ _)
  have b := dec_complete t' p h' [] (t.sz + t'.sz) (Nat.le_add_left _ _)
  rw [a] at b
  injection b with b
  injection b with b _

/-- whatever denotes an item is longer than the fuel the item needs: the decoder's own fuel, the
length of the text and one more, suffices -/
theorem denotes_sz (t : Tmpl) (p : Bytes) (h : Denotes p t) : t.sz + 1 ≤ p.length := by
  have := sz_le_of_dec t.sz (p ++ []) t [] (dec_complete t p h [] t.sz (Nat.le_refl _))
  simpa using this

/-! ### the round trip on item trees and the size of encodings, as corollaries: the encoder is sound
for `Spec.Encodes`, a strict encoding is a lenient reading, the decoder is complete for `Spec.Denotes` -/

/-- C01 core: decoding what was encoded gives the item back, leaving the suffix untouched -/
theorem decItem_enc (t : Tmpl) (hw : t.wf = true) (hc : t.closed = true) (rest : Bytes) (fuel : Nat)
    (hf : t.sz ≤ fuel) : decItem fuel (t.enc ++ rest) = some (t, rest) :=
  dec_complete t t.enc (encodes_denotes t _ (enc_sound t hw hc)) rest fuel hf

theorem decItems_enc (xs : Slots) (hw : xs.wfAll = true) (hc : xs.closedAll = true) (rest : Bytes) (fuel : Nat)
    (hf : xs.szs ≤ fuel) : ∃ p, xs.enc = some p ∧ decItems fuel xs.len (p ++ rest) = some (xs, rest) :=
  let ⟨p, hp, hall⟩ := encs_sound xs hw hc
  ⟨p, hp, decs_complete xs p (encodesAll_denotesAll xs p hall) rest fuel hf⟩

theorem encs_some (xs : Slots) (hw : xs.wfAll = true) (hc : xs.closedAll = true) : ∃ p, xs.enc = some p :=
  let ⟨p, hp, _⟩ := encs_sound xs hw hc
  ⟨p, hp⟩

/-- the fuel an item needs is below the length of its encoding -/
theorem sz_lt_enc (t : Tmpl) (hw : t.wf = true) (hc : t.closed = true) : t.sz + 1 ≤ t.enc.length :=
  denotes_sz t _ (encodes_denotes t _ (enc_sound t hw hc))

theorem szs_le_encs (xs : Slots) (hw : xs.wfAll = true) (hc : xs.closedAll = true) :
    ∃ p, xs.enc = some p ∧ xs.szs ≤ p.length := by
  obtain ⟨p, hp, hd⟩ := decItems_enc xs hw hc [] xs.szs (Nat.le_refl _)
  have := szs_le_of_decs _ _ _ _ _ hd
  exact ⟨p, hp, by simpa using this⟩

theorem enc_length_ge (t : Tmpl) (hw : t.wf = true) (hc : t.closed = true) : 2 ≤ t.enc.length := by
  have := sz_lt_enc t hw hc
  have := sz_pos t
  omega

end Secs
