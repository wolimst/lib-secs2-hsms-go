/- The decoder side of the codec: slot lists, fixed-width payloads, the format tables, and how
`decItem` / `decItems` read a header and succeed (behind C01, C03, C07, C13). -/
import SecsModel.Proofs.Bytes
import SecsModel.Model.WF
import SecsModel.Model.Decode
namespace Secs
open Spec

theorem slotVals_map_val {α} (vs : List α) : slotVals (vs.map Slot.val) = some vs := by
  induction vs with
  | nil => rfl
  | cons v r ih => simp [slotVals, ih]

theorem slotVars_map_val {α} (vs : List α) : slotVars (vs.map Slot.val) = [] := by
  induction vs with
  | nil => rfl
  | cons v r ih => simp [slotVars, ih]

theorem closed_slots {α} (xs : List (Slot α)) (h : (slotVars xs).isEmpty = true) :
    ∃ vs : List α, xs = vs.map Slot.val := by
  induction xs with
  | nil => exact ⟨[], rfl⟩
  | cons x r ih =>
    cases x with
    | var n => simp [slotVars] at h
    | val a =>
      obtain ⟨vs, hvs⟩ := ih (by simpa [slotVars] using h)
      exact ⟨a :: vs, by simp [hvs]⟩

theorem slotsOk_map_val {α} (p : α → Bool) (vs : List α) :
    slotsOk p (vs.map Slot.val) = true ↔ ∀ v ∈ vs, p v = true := by
  simp only [slotsOk, slotVars_map_val, nodupNames, Bool.and_true, List.all_eq_true, List.mem_map,
    forall_exists_index, and_imp, forall_apply_eq_imp_iff₂]

/-! ### payloads of fixed-width values: `flatMap enc` and `chunks` are inverse -/

theorem all_map {α β} (p : β → Bool) (f : α → β) (vs : List α) (h : ∀ v ∈ vs, p (f v) = true) :
    (vs.map f).all p = true := by
  simp only [List.all_eq_true, List.mem_map]
  rintro _ ⟨v, hv, rfl⟩
  exact h v hv

theorem chunks_flatMap {α} (w : Nat) (hw : 0 < w) (f : α → Bytes) (vs : List α)
    (hf : ∀ v ∈ vs, (f v).length = w) (fuel : Nat) (hfuel : vs.length ≤ fuel) :
    chunks w fuel (vs.flatMap f) = vs.map f := by
  induction vs generalizing fuel with
  | nil => cases fuel <;> simp [chunks]
  | cons v r ih =>
    cases fuel with
    | zero => simp at hfuel
    | succ fuel =>
      have hv : (f v).length = w := hf v (by simp)
      have hne : f v ++ r.flatMap f ≠ [] := by
        intro h; have := congrArg List.length h; simp [hv] at this; omega
      simp only [List.flatMap_cons]
      rw [chunks]
      · rw [List.take_left' hv, List.drop_left' hv,
          ih (fun x hx => hf x (by simp [hx])) fuel (by simpa using hfuel)]
        simp
      · exact hne

theorem flatMap_length_const {α} (w : Nat) (f : α → Bytes) (vs : List α)
    (hf : ∀ v ∈ vs, (f v).length = w) : (vs.flatMap f).length = vs.length * w := by
  induction vs with
  | nil => simp
  | cons v r ih =>
    simp only [List.flatMap_cons, List.length_append, List.length_cons]
    rw [hf v (by simp), ih (fun x hx => hf x (by simp [hx])), Nat.succ_mul]; omega

-- patterns on the analysed argument only, the rest by `fun`: a pattern over all arguments builds a matcher over each
theorem chunks_spec (w : Nat) (hw : 0 < w) : ∀ (m fuel : Nat) (p : Bytes), p.length = m * w → m ≤ fuel →
    (chunks w fuel p).length = m ∧ (∀ c ∈ chunks w fuel p, c.length = w) ∧ (chunks w fuel p).flatMap id = p
  | 0, fuel, p => fun hl _ => by
    rw [Nat.zero_mul] at hl
    rw [List.length_eq_zero_iff.mp hl]
    cases fuel <;> exact ⟨rfl, nofun, rfl⟩
  | m + 1, 0, _ => fun _ hf => absurd hf (Nat.not_succ_le_zero m)
  | m + 1, fuel + 1, [] => fun hl _ => by
    have : 0 < (m + 1) * w := Nat.mul_pos (Nat.succ_pos m) hw
    rw [← hl] at this
    exact absurd this (Nat.lt_irrefl 0)
  | m + 1, fuel + 1, b :: r => fun hl hf => by
    rw [Nat.succ_mul] at hl
    have hd : ((b :: r).drop w).length = m * w := by rw [List.length_drop, hl, Nat.add_sub_cancel]
    obtain ⟨ih1, ih2, ih3⟩ := chunks_spec w hw m fuel ((b :: r).drop w) hd (Nat.le_of_succ_le_succ hf)
    rw [chunks]
    refine ⟨by rw [List.length_cons, ih1], ?_, ?_⟩
    · intro c hc
      rcases List.mem_cons.mp hc with rfl | hc
      · rw [List.length_take, hl]; exact Nat.min_eq_left (Nat.le_add_left _ _)
      · exact ih2 c hc
    · rw [List.flatMap_cons, ih3]
      exact List.take_append_drop w (b :: r)
    · exact List.cons_ne_nil b r

theorem chunks_flatMap_map {α} (w : Nat) (hw : 0 < w) (enc : α → Bytes) (dec : Bytes → α) (vs : List α)
    (h : ∀ v ∈ vs, (enc v).length = w ∧ dec (enc v) = v) :
    (vs.flatMap enc).length = vs.length * w ∧
    (chunks w (vs.length * w) (vs.flatMap enc)).map dec = vs := by
  refine ⟨flatMap_length_const w enc vs (fun v hv => (h v hv).1), ?_⟩
  rw [chunks_flatMap w hw enc vs (fun v hv => (h v hv).1) _ (Nat.le_mul_of_pos_right _ hw)]
  rw [List.map_map]
  exact (List.map_congr_left fun v hv => (h v hv).2).trans (List.map_id vs)

/-- `∀ b ∈ c, b ∈ p` in `h` hands the caller what it knows of the bytes of `p` (that they are bytes)
for each chunk -/
theorem chunks_map_flatMap {α} (w : Nat) (hw : 0 < w) (enc : α → Bytes) (dec : Bytes → α) (p : Bytes)
    (hm : p.length % w = 0) (h : ∀ c, c.length = w → (∀ b ∈ c, b ∈ p) → enc (dec c) = c) :
    ((chunks w p.length p).map dec).length * w = p.length ∧
    ((chunks w p.length p).map dec).flatMap enc = p ∧
    ∀ v ∈ (chunks w p.length p).map dec, ∃ c, c.length = w ∧ (∀ b ∈ c, b ∈ p) ∧ v = dec c := by
  have hm' : p.length = p.length / w * w := (Nat.div_mul_cancel (Nat.dvd_of_mod_eq_zero hm)).symm
  obtain ⟨hc1, hc2, hc3⟩ := chunks_spec w hw (p.length / w) p.length p hm' (Nat.div_le_self _ _)
  have hsub : ∀ c ∈ chunks w p.length p, ∀ b ∈ c, b ∈ p := fun c hc b hb => by
    rw [← hc3]; exact List.mem_flatMap.mpr ⟨c, hc, hb⟩
  refine ⟨by rw [List.length_map, hc1, ← hm'], ?_, ?_⟩
  · rw [List.flatMap_map, List.flatMap_def, List.map_congr_left (g := id) fun c hc => h c (hc2 c hc) (hsub c hc),
      ← List.flatMap_def, hc3]
  · intro v hv
    obtain ⟨c, hc, rfl⟩ := List.mem_map.mp hv
    exact ⟨c, hc2 c hc, hsub c hc, rfl⟩

theorem pow8 (w : Nat) : (256 : Nat) ^ w = 2 ^ (8 * w) := by
  rw [show (256 : Nat) = 2 ^ 8 by rfl, ← Nat.pow_mul]

/-- `2 ^ (8 * w)` is twice `2 ^ (8 * w - 1)`, over `Nat` and over `Int`; with these three facts
the two's-complement lemmas are linear arithmetic in the one unknown `2 ^ (8 * w - 1)` -/
theorem pow8_half (w : Nat) (hw : 0 < w) :
    (256 : Nat) ^ w = 2 * 2 ^ (8 * w - 1) ∧ (2 : Int) ^ (8 * w) = 2 * (2 : Int) ^ (8 * w - 1) ∧
    ((2 ^ (8 * w - 1) : Nat) : Int) = (2 : Int) ^ (8 * w - 1) := by
  obtain ⟨k, hk⟩ : ∃ k, 8 * w = k + 1 := ⟨8 * w - 1, by omega⟩
  rw [show (256 : Nat) = 2 ^ 8 by rfl, ← Nat.pow_mul, hk, Nat.add_sub_cancel, Nat.pow_succ, Int.pow_succ]
  exact ⟨Nat.mul_comm _ _, Int.mul_comm _ _, Int.natCast_pow 2 k⟩

theorem toSigned_range (w : Nat) (hw : 0 < w) (n : Nat) (hn : n < 256 ^ w) :
    -(2 : Int) ^ (8 * w - 1) ≤ toSigned w n ∧ toSigned w n < (2 : Int) ^ (8 * w - 1) ∧
    (toSigned w n % (2 : Int) ^ (8 * w)).toNat = n := by
  obtain ⟨h1, h2, h3⟩ := pow8_half w hw
  rw [h1] at hn
  unfold toSigned
  split
  · rw [Int.emod_eq_of_lt (by omega) (by omega)]; omega
  · rw [Int.sub_emod_right, Int.emod_eq_of_lt (by omega) (by omega)]; omega

theorem toSigned_twos (w : Nat) (hw : 0 < w) (v : Int)
    (h : -(2 : Int) ^ (8 * w - 1) ≤ v ∧ v < (2 : Int) ^ (8 * w - 1)) : toSigned w (beDec (twos w v)) = v := by
  obtain ⟨h1, h2, h3⟩ := pow8_half w hw
  -- by lemmas where there is one: each `omega` here costs as much as the rest of the step it serves
  have hpos : (0 : Int) < 2 ^ (8 * w) := Int.pow_pos (by decide)
  have hlt : (v % (2 : Int) ^ (8 * w)).toNat < 256 ^ w := by
    rw [pow8, Int.toNat_lt (Int.emod_nonneg _ (Int.ne_of_gt hpos)), Int.natCast_pow]
    exact Int.emod_lt_of_pos _ hpos
  unfold twos
  rw [beDec_beEnc _ _ hlt]
  unfold toSigned
  by_cases hv : 0 ≤ v
  · rw [Int.emod_eq_of_lt hv (by omega), if_pos (by omega), Int.toNat_of_nonneg hv]
  · rw [← Int.add_emod_right, Int.emod_eq_of_lt (by omega) (by omega), if_neg (by omega),
      Int.toNat_of_nonneg (by omega)]
    omega

theorem twos_toSigned (w : Nat) (hw : 0 < w) (c : Bytes) (hc : IsBytes c) (hl : c.length = w) :
    twos w (toSigned w (beDec c)) = c := by
  have hlt := beDec_lt c hc
  rw [hl] at hlt
  unfold twos
  rw [(toSigned_range w hw (beDec c) hlt).2.2, ← hl]
  exact beEnc_beDec c hc

theorem be_payload (w : Nat) (hw : 0 < w) (vs : List Nat) (hr : ∀ v ∈ vs, v < 2 ^ (8 * w)) :
    (vs.flatMap (beEnc w)).length = vs.length * w ∧
    (chunks w (vs.length * w) (vs.flatMap (beEnc w))).map beDec = vs :=
  chunks_flatMap_map w hw (beEnc w) beDec vs fun v hv =>
    ⟨beEnc_length _ _, beDec_beEnc w v (by rw [pow8]; exact hr v hv)⟩

theorem be_chunks (w : Nat) (hw : 0 < w) (p : Bytes) (hp : IsBytes p) (hm : p.length % w = 0) :
    ((chunks w p.length p).map beDec).length * w = p.length ∧
    ((chunks w p.length p).map beDec).flatMap (beEnc w) = p ∧
    ∀ v ∈ (chunks w p.length p).map beDec, v < 2 ^ (8 * w) := by
  have key : ∀ c : Bytes, c.length = w → (∀ b ∈ c, b ∈ p) → beEnc w (beDec c) = c ∧ beDec c < 2 ^ (8 * w) :=
    fun c hc hs =>
      have hcb : IsBytes c := fun b hb => hp b (hs b hb)
      ⟨hc ▸ beEnc_beDec c hcb, by rw [← pow8, ← hc]; exact beDec_lt c hcb⟩
  obtain ⟨hl, hpay, hmem⟩ := chunks_map_flatMap w hw (beEnc w) beDec p hm fun c hc hs => (key c hc hs).1
  refine ⟨hl, hpay, fun v hv => ?_⟩
  obtain ⟨c, hc, hs, rfl⟩ := hmem v hv
  exact (key c hc hs).2

theorem twos_payload (w : Nat) (hw : 0 < w) (vs : List Int)
    (hr : ∀ v ∈ vs, -(2 : Int) ^ (8 * w - 1) ≤ v ∧ v < (2 : Int) ^ (8 * w - 1)) :
    (vs.flatMap (twos w)).length = vs.length * w ∧
    (chunks w (vs.length * w) (vs.flatMap (twos w))).map (fun c => toSigned w (beDec c)) = vs :=
  chunks_flatMap_map w hw (twos w) _ vs fun v hv => ⟨beEnc_length _ _, toSigned_twos w hw v (hr v hv)⟩

theorem twos_chunks (w : Nat) (hw : 0 < w) (p : Bytes) (hp : IsBytes p) (hm : p.length % w = 0) :
    ((chunks w p.length p).map (fun c => toSigned w (beDec c))).length * w = p.length ∧
    ((chunks w p.length p).map (fun c => toSigned w (beDec c))).flatMap (twos w) = p ∧
    ∀ v ∈ (chunks w p.length p).map (fun c => toSigned w (beDec c)),
      -(2 : Int) ^ (8 * w - 1) ≤ v ∧ v < (2 : Int) ^ (8 * w - 1) := by
  obtain ⟨hl, hpay, hmem⟩ := chunks_map_flatMap w hw (twos w) (fun c => toSigned w (beDec c)) p hm
    (fun c hc hs => twos_toSigned w hw c (fun b hb => hp b (hs b hb)) hc)
  refine ⟨hl, hpay, fun v hv => ?_⟩
  obtain ⟨c, hc, hs, rfl⟩ := hmem v hv
  have := toSigned_range w hw (beDec c) (hc ▸ beDec_lt c (fun b hb => hp b (hs b hb)))
  exact ⟨this.1, this.2.1⟩

/-! ### the format tables: the model's lookup by width, the standard's codes, `checkRep`'s widths -/

theorem decodeFmt_code (f : Fmt) : decodeFmt? f.code = some f := by cases f <;> rfl

theorem decodeFmt_some (c : Nat) (f : Fmt) (h : decodeFmt? c = some f) : f.code = c := by
  unfold decodeFmt? at h
  have := List.find?_some h
  simpa using this

theorem intCode_eq : ∀ w : Nat, intCode w = (intFmt? w).map Fmt.code
  | 1 | 2 | 4 | 8 => rfl
  | 0 | 3 | 5 | 6 | 7 | _ + 9 => rfl

theorem uintCode_eq : ∀ w : Nat, uintCode w = (uintFmt? w).map Fmt.code
  | 1 | 2 | 4 | 8 => rfl
  | 0 | 3 | 5 | 6 | 7 | _ + 9 => rfl

theorem floatCode_eq : ∀ w : Nat, floatCode w = (floatFmt? w).map Fmt.code
  | 4 | 8 => rfl
  | 0 | 1 | 2 | 3 | 5 | 6 | 7 | _ + 9 => rfl

theorem validWidthInt_eq : ∀ w : Nat, validWidthInt w = (intFmt? w).isSome
  | 1 | 2 | 4 | 8 => rfl
  | 0 | 3 | 5 | 6 | 7 | _ + 9 => rfl

theorem validWidthInt_eq' : ∀ w : Nat, validWidthInt w = (uintFmt? w).isSome
  | 1 | 2 | 4 | 8 => rfl
  | 0 | 3 | 5 | 6 | 7 | _ + 9 => rfl

theorem validWidthFloat_eq : ∀ w : Nat, validWidthFloat w = (floatFmt? w).isSome
  | 4 | 8 => rfl
  | 0 | 1 | 2 | 3 | 5 | 6 | 7 | _ + 9 => rfl

theorem intFmt_width (w : Nat) (f : Fmt) (h : intFmt? w = some f) :
    f.width = w ∧ f ≠ .list ∧ (w = 1 ∨ w = 2 ∨ w = 4 ∨ w = 8) := by
  unfold intFmt? at h; split at h <;> cases h <;> decide

theorem uintFmt_width (w : Nat) (f : Fmt) (h : uintFmt? w = some f) :
    f.width = w ∧ f ≠ .list ∧ (w = 1 ∨ w = 2 ∨ w = 4 ∨ w = 8) := by
  unfold uintFmt? at h; split at h <;> cases h <;> decide

theorem floatFmt_width (w : Nat) (f : Fmt) (h : floatFmt? w = some f) :
    f.width = w ∧ f ≠ .list ∧ (w = 4 ∨ w = 8) := by
  unfold floatFmt? at h; split at h <;> cases h <;> decide

theorem Fmt.kinds (f : Fmt) : f = .list ∨ f = .ascii ∨ f = .binary ∨ f = .boolean ∨
    intFmt? f.width = some f ∨ uintFmt? f.width = some f ∨ floatFmt? f.width = some f := by
  cases f <;> decide

theorem decPayload_intFmt (w : Nat) (f : Fmt) (h : intFmt? w = some f) (p : Bytes) :
    decPayload f p = if p.length % w != 0 then none
      else some (.int w ((chunks w p.length p).map (fun c => Slot.val (toSigned w (beDec c))))) := by
  unfold intFmt? at h; split at h <;> cases h <;> rfl

theorem decPayload_uintFmt (w : Nat) (f : Fmt) (h : uintFmt? w = some f) (p : Bytes) :
    decPayload f p = if p.length % w != 0 then none
      else some (.uint w ((chunks w p.length p).map (fun c => Slot.val (beDec c)))) := by
  unfold uintFmt? at h; split at h <;> cases h <;> rfl

theorem decPayload_floatFmt (w : Nat) (f : Fmt) (h : floatFmt? w = some f) (p : Bytes) :
    decPayload f p = if p.length % w != 0 then none
      else if ((chunks w p.length p).map beDec).all (FloatLib.isFinite w) then
        some (.float w (((chunks w p.length p).map beDec).map Slot.val)) else none := by
  unfold floatFmt? at h; split at h <;> cases h <;> rfl

theorem decItem_headerK (code k n : Nat) (hk : KOk k n) (body : Bytes) (fuel : Nat) :
    decItem (fuel + 1) (headerK code k n ++ body) =
      match decodeFmt? code with
      | none => none
      | some .list => (decItems fuel n body).map (fun q => (.list q.1, q.2))
      | some f =>
        if body.length < n then none
        else (decPayload f (body.take n)).map (fun t => (t, body.drop n)) := by
  obtain ⟨k1, k3, kn⟩ := hk
  have k4 : k < 4 := Nat.lt_succ_of_le k3
  have h4 : (code * 4 + k) % 4 = k := by rw [Nat.mul_comm, Nat.mul_add_mod, Nat.mod_eq_of_lt k4]
  have h5 : (code * 4 + k) / 4 = code := by
    rw [Nat.mul_comm, Nat.mul_add_div (by decide), Nat.div_eq_of_lt k4, Nat.add_zero]
  have hk0 : ¬ k = 0 := Nat.ne_of_gt k1
  have h1 : ¬ (k + body.length < k) := Nat.not_lt.mpr (Nat.le_add_right _ _)
  unfold headerK
  rw [List.cons_append, decItem]
  simp only [h4, h5, hk0, if_false, List.length_append, beEnc_length, h1,
    List.take_left' (beEnc_length k _), List.drop_left' (beEnc_length k _), beDec_beEnc k _ kn]
  split
  · rename_i heq
    rw [heq]
  · rename_i heq
    rw [heq]
    cases decItems fuel n body <;> rfl
  · rename_i f hne heq
    rw [heq]
    simp only
    split
    · rfl
    · cases decPayload f (body.take n) <;> rfl

theorem decItem_leaf_k (f : Fmt) (hf : f ≠ .list) (k n : Nat) (hk : KOk k n) (payload : Bytes) (t : Tmpl)
    (hlen : payload.length = n) (hd : decPayload f payload = some t) (rest : Bytes) (fuel : Nat) :
    decItem (fuel + 1) (headerK f.code k n ++ payload ++ rest) = some (t, rest) := by
  have h2 : ¬ ((payload ++ rest).length < n) := by rw [List.length_append]; omega
  rw [List.append_assoc, decItem_headerK _ k n hk, decodeFmt_code]
  split
  · rename_i h; cases h
  · rename_i h; cases h; exact absurd rfl hf
  · rename_i h
    cases h
    rw [if_neg h2, List.take_left' hlen, List.drop_left' hlen, hd]
    rfl

/-- stated for `fuel + 1`, like `decItems_succ_some`, so that the inductions over a successful
decode stay structural in the fuel (well-founded recursion is slow to check here) -/
theorem decItem_some (fuel : Nat) (inp : Bytes) (t : Tmpl) (r : Bytes)
    (h : decItem (fuel + 1) inp = some (t, r)) :
    ∃ fb lb body f, inp = fb :: (lb ++ body) ∧ lb.length = fb % 4 ∧ 1 ≤ fb % 4 ∧
      decodeFmt? (fb / 4) = some f ∧
      ((f = .list ∧ ∃ xs, decItems fuel (beDec lb) body = some (xs, r) ∧ t = .list xs) ∨
       (f ≠ .list ∧ ∃ p, body = p ++ r ∧ p.length = beDec lb ∧ decPayload f p = some t)) := by
  -- the decoder's own cases, of which two return an item (a `split at h` for each test would abstract the whole body again)
  revert h
  generalize hg : fuel + 1 = g
  fun_cases decItem g inp <;> intro h <;> first | cases h | skip
  · rename_i g fb rest k hk hl n body hf xs hd
    cases hg
    exact ⟨fb, rest.take (fb % 4), rest.drop (fb % 4), .list, by rw [List.take_append_drop],
      List.length_take.trans (Nat.min_eq_left (Nat.le_of_not_lt hl)), Nat.pos_of_ne_zero hk, hf, .inl ⟨rfl, xs, hd, rfl⟩⟩
  · rename_i g fb rest k hk hl n body f hne hf hn hd
    cases hg
    exact ⟨fb, rest.take (fb % 4), rest.drop (fb % 4), f, by rw [List.take_append_drop],
      List.length_take.trans (Nat.min_eq_left (Nat.le_of_not_lt hl)), Nat.pos_of_ne_zero hk, hf,
      .inr ⟨hne, _, (List.take_append_drop ..).symm, List.length_take.trans (Nat.min_eq_left (Nat.le_of_not_lt hn)), hd⟩⟩

theorem decItems_zero (fuel : Nat) (inp : Bytes) : decItems fuel 0 inp = some (.nil, inp) := by
  cases fuel <;> rfl

theorem decItems_succ_some (fuel n : Nat) (inp : Bytes) (xs : Slots) (r : Bytes)
    (h : decItems (fuel + 1) (n + 1) inp = some (xs, r)) :
    ∃ x r1 ys, decItem fuel inp = some (x, r1) ∧ decItems fuel n r1 = some (ys, r) ∧ xs = .item x ys := by
  rw [decItems] at h
  split at h
  · cases h
  · rename_i x r1 h1
    split at h
    · cases h
    · rename_i ys r' h2
      simp only [Option.some.injEq, Prod.mk.injEq] at h
      exact ⟨x, r1, ys, h1, h.2 ▸ h2, h.1.symm⟩

mutual
/-- a fuel that suffices to decode the item (`dec_complete`): one unit per node and one per list
slot; never more than the bytes the item is decoded from (`sz_le_of_dec`) -/
def Tmpl.sz : Tmpl → Nat
  | .list xs => 1 + xs.szs
  | _ => 1

def Slots.szs : Slots → Nat
  | .nil => 0
  | .item x r => x.sz + r.szs + 1
  | .var _ r => r.szs + 1
end

theorem sz_pos (t : Tmpl) : 1 ≤ t.sz := by
  cases t <;> simp [Tmpl.sz]

theorem decPayload_sz (f : Fmt) (p : Bytes) (t : Tmpl) (h : decPayload f p = some t) : t.sz = 1 := by
  rcases Fmt.kinds f with rfl | rfl | rfl | rfl | hf | hf | hf
  · cases h
  · simp only [decPayload] at h
    split at h <;> cases h
    simp only [Tmpl.sz]
  · cases h; simp only [Tmpl.sz]
  · cases h; simp only [Tmpl.sz]
  · rw [decPayload_intFmt _ f hf] at h
    split at h <;> cases h
    simp only [Tmpl.sz]
  · rw [decPayload_uintFmt _ f hf] at h
    split at h <;> cases h
    simp only [Tmpl.sz]
  · rw [decPayload_floatFmt _ f hf] at h
    split at h
    · cases h
    · split at h <;> cases h
      simp only [Tmpl.sz]

mutual
theorem sz_le_of_dec : ∀ (fuel : Nat) (inp : Bytes) (t : Tmpl) (r : Bytes),
    decItem fuel inp = some (t, r) → t.sz + 1 + r.length ≤ inp.length
  | 0 => fun _ _ _ h => by simp [decItem] at h
  | fuel + 1 => fun inp t r h => by
    obtain ⟨fb, lb, body, f, rfl, hl, hk, _, h⟩ := decItem_some fuel inp t r h
    rcases h with ⟨_, xs, hd, rfl⟩ | ⟨_, p, rfl, _, hd⟩
    · have := szs_le_of_decs fuel _ body xs r hd
      simp only [Tmpl.sz, List.length_cons, List.length_append]; omega
    · simp only [decPayload_sz f p t hd, List.length_cons, List.length_append]; omega

theorem szs_le_of_decs : ∀ (fuel n : Nat) (inp : Bytes) (xs : Slots) (r : Bytes),
    decItems fuel n inp = some (xs, r) → xs.szs + r.length ≤ inp.length
  | _, 0 => fun inp xs r h => by
    rw [decItems_zero] at h
    simp only [Option.some.injEq, Prod.mk.injEq] at h
    rw [← h.1, h.2]; simp [Slots.szs]
  | 0, _ + 1 => fun _ _ _ h => by simp [decItems] at h
  | fuel + 1, n + 1 => fun inp xs r h => by
    obtain ⟨x, r1, ys, h1, h2, rfl⟩ := decItems_succ_some fuel n inp xs r h
    have := sz_le_of_dec fuel inp x r1 h1
    have := szs_le_of_decs fuel n r1 ys r h2
    simp only [Slots.szs]; omega
end

end Secs
