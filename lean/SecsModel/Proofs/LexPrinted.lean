/-
The lexer half of the print → parse round trip: how the lexer reads the printed form, token kind by
token kind: the text of a token, in front of a byte at which the token ends (`Stop`), is scanned
as that token (`lex_scan`; the token kinds of the printed form: `Sml.Printed`, Proofs/LexPrintedItems).
-/
import SecsModel.Proofs.LexLayout
import SecsModel.Model.Item
namespace Secs
namespace Lex

/-- a text that starts with a visible 7-bit byte: no mode skips it -/
def Visible (raw : Bytes) : Prop := ∃ b r, raw = b :: r ∧ 33 ≤ b ∧ b ≤ 126

theorem isSpace_visible (b : Nat) (hb : 33 ≤ b ∧ b ≤ 126) : Utf8.isSpace b = false := by
  simp only [Utf8.isSpace, Bool.or_eq_false_iff, Bool.and_eq_false_iff, decide_eq_false_iff_not, beq_eq_false_iff_ne]
  omega

theorem skipR_visible (m : Mode) (b : Nat) (r : Bytes) (hb : 33 ≤ b ∧ b ≤ 126) : skipR m (b :: r) = b :: r := by
  have h1 : isBlank b = false := by simp [isBlank]; omega
  refine skipR_stop ?_
  cases m <;> simp [skipLen, h1, Utf8.decodeRune_ascii b r (by omega), isSpace_visible b hb]

theorem lex_scan (ual : List Nat) (m : Mode) (ws raw more : Bytes) (t : Tok) (m' : Mode)
    (hws : ∀ c ∈ ws, isBlank c = true) (hv : Visible raw)
    (h : scanSig ual m (raw ++ more) = (t, some (m', more))) :
    (lexFrom ual m (ws ++ (raw ++ more))).map eraseT = t :: (lexFrom ual m' more).map eraseT := by
  obtain ⟨b, r, rfl, hb⟩ := hv
  rw [lexFrom_unfold, skipR_blank_run m _ ws hws, List.cons_append, skipR_visible m b _ hb, ← List.cons_append, h]

theorem lex_txt (ual : List Nat) (ws raw more : Bytes) (k : Kind) (v : Bytes) (m' : Mode)
    (hws : ∀ c ∈ ws, isBlank c = true) (hv : Visible raw) (h : txtScan ual (raw ++ more) = .tok k v raw m') :
    (lexFrom ual .text (ws ++ (raw ++ more))).map eraseT = ⟨k, v, 0, 0, none⟩ :: (lexFrom ual m' more).map eraseT :=
  lex_scan ual .text ws raw more _ m' hws hv (by simp only [scanSig, h, List.drop_left])

theorem lex_hdr (ual : List Nat) (ws raw more : Bytes) (k : Kind) (v : Bytes) (m' : Mode)
    (hws : ∀ c ∈ ws, isBlank c = true) (hv : Visible raw) (h : hdrScan (raw ++ more) = some (k, v, raw, m')) :
    (lexFrom ual .header (ws ++ (raw ++ more))).map eraseT = ⟨k, v, 0, 0, none⟩ :: (lexFrom ual m' more).map eraseT :=
  lex_scan ual .header ws raw more _ m' hws hv (by simp only [scanSig, h, List.drop_left])

/-- a byte that ends every printed value and name: a blank, a line feed or `>` -/
def Stop (f : Nat) : Prop := f = 32 ∨ f = 10 ∨ f = 62

theorem Stop.notWord {f : Nat} (hf : Stop f) : isWordB f = false := by
  rcases hf with rfl | rfl | rfl <;> decide

theorem txtScan_lab (ual : List Nat) (r : Bytes) : txtScan ual (60 :: r) = .tok .lab [60] [60] .text := rfl

theorem txtScan_rab (ual : List Nat) (r : Bytes) : txtScan ual (62 :: r) = .tok .rab [62] [62] .text := rfl

/-- `..` would begin an ellipsis and `.5` a number: hence the condition on what follows the `.` -/
theorem txtScan_msgEnd (ual : List Nat) (r : Bytes)
    (hr : r = [] ∨ ∃ c r', r = c :: r' ∧ c ≠ 46 ∧ isDigitB c = false) :
    txtScan ual (46 :: r) = .tok .msgEnd [46] [46] .header := by
  rcases hr with rfl | ⟨c, r', rfl, hc, hd⟩
  · rfl
  · simp [txtScan, startsWith, matchEllipsis, matchWord, isIdentStartB, isAlphaB, isUpperB, isLowerB, startsNumber, hc, hd]
    simp [isDigitB] at hd ⊢

theorem matchWord_word (c0 : Nat) (w : Bytes) (f : Nat) (r : Bytes) (h0 : isIdentStartB c0 = true)
    (hw : ∀ x ∈ w, isWordB x = true) (hf : isWordB f = false) :
    matchWord (c0 :: (w ++ f :: r)) = some (c0 :: w) := by
  simp only [matchWord, h0, if_true, spanB_stop isWordB w f r hw hf]

theorem identStart_ne_slash_dot (c0 : Nat) (h0 : isIdentStartB c0 = true) : c0 ≠ 47 ∧ c0 ≠ 46 := by
  simp only [isIdentStartB, isAlphaB, isUpperB, isLowerB, Bool.or_eq_true, Bool.and_eq_true, decide_eq_true_eq,
    beq_iff_eq] at h0
  omega

theorem not_comment_not_ellipsis (b : Nat) (t : Bytes) (h47 : b ≠ 47) (h46 : b ≠ 46) :
    startsWith [47, 47] (b :: t) = false ∧ matchEllipsis (b :: t) = none := by
  refine ⟨by cases t <;> simp [startsWith, h47], ?_⟩
  unfold matchEllipsis
  split
  · rename_i heq; injection heq with h1 _; exact absurd h1 h46
  · rfl

theorem txtScan_word (ual : List Nat) (c0 : Nat) (w : Bytes) (f : Nat) (r : Bytes) (h0 : isIdentStartB c0 = true)
    (hw : ∀ x ∈ w, isWordB x = true) (hf : isWordB f = false) :
    txtScan ual (c0 :: (w ++ f :: r)) =
      if typeKeywords.contains (upper (c0 :: w)) then .tok .itemType (upper (c0 :: w)) (c0 :: w) .text
      else if boolKeywords.contains (upper (c0 :: w)) then .tok .bool (upper (c0 :: w)) (c0 :: w) .text
      else .tok .variable ((c0 :: w) ++ matchIdxs (c0 :: (w ++ f :: r)).length (f :: r))
        ((c0 :: w) ++ matchIdxs (c0 :: (w ++ f :: r)).length (f :: r)) .text := by
  obtain ⟨h47, h46⟩ := identStart_ne_slash_dot c0 h0
  obtain ⟨hsw, hme⟩ := not_comment_not_ellipsis c0 (w ++ f :: r) h47 h46
  have hdrop : (c0 :: (w ++ f :: r)).drop (c0 :: w).length = f :: r := by
    rw [show c0 :: (w ++ f :: r) = (c0 :: w) ++ f :: r from rfl, List.drop_left]
  simp only [txtScan, hsw, Bool.false_eq_true, if_false, hme, matchWord_word c0 w f r h0 hw hf, hdrop]

theorem spanB_nomatch (p : Nat → Bool) (b : Nat) (r : Bytes) (h : p b = false) : spanB p (b :: r) = ([], b :: r) :=
  spanB_stop p [] b r (by simp) h

/-- `[a]` -/
theorem scanSize_single (ds r : Bytes) (hne : ds ≠ []) (hd : ∀ c ∈ ds, isDigitB c = true) :
    scanSize (91 :: (ds ++ 93 :: r)) = some (91 :: (ds ++ [93])) := by
  obtain ⟨c, cr, rfl⟩ := List.exists_cons_of_ne_nil hne
  have h1 : spanB isBlank (c :: cr ++ 93 :: r) = ([], c :: cr ++ 93 :: r) :=
    spanB_nomatch _ _ _ (noBlank_digit.not_blank (hd c (by simp)))
  have h2 : spanB isDigitB (c :: cr ++ 93 :: r) = (c :: cr, 93 :: r) := spanB_stop isDigitB _ 93 r hd (by decide)
  have h3 : spanB isBlank (93 :: r) = ([], 93 :: r) := spanB_nomatch _ _ _ (by decide)
  simp only [scanSize, scanSizeBody, h1, h2, List.isEmpty_cons, Bool.false_eq_true, if_false, h3]
  simp

/-- `[a..b]` and, with nothing after the dots, `[a..]` -/
theorem scanSize_dots (lo hi r : Bytes) (hne : lo ≠ []) (hlo : ∀ c ∈ lo, isDigitB c = true) (hhi : ∀ c ∈ hi, isDigitB c = true) :
    scanSize (91 :: (lo ++ 46 :: 46 :: (hi ++ 93 :: r))) = some (91 :: (lo ++ 46 :: 46 :: (hi ++ [93]))) := by
  obtain ⟨c, cr, rfl⟩ := List.exists_cons_of_ne_nil hne
  have h1 : spanB isBlank (c :: cr ++ 46 :: 46 :: (hi ++ 93 :: r)) = ([], c :: cr ++ 46 :: 46 :: (hi ++ 93 :: r)) :=
    spanB_nomatch _ _ _ (noBlank_digit.not_blank (hlo c (by simp)))
  have h2 : spanB isDigitB (c :: cr ++ 46 :: 46 :: (hi ++ 93 :: r)) = (c :: cr, 46 :: 46 :: (hi ++ 93 :: r)) :=
    spanB_stop isDigitB _ 46 _ hlo (by decide)
  have h3 : spanB isBlank (46 :: 46 :: (hi ++ 93 :: r)) = ([], 46 :: 46 :: (hi ++ 93 :: r)) := spanB_nomatch _ _ _ (by decide)
  have h4 : spanB isBlank (hi ++ 93 :: r) = ([], hi ++ 93 :: r) := by
    cases hi with
    | nil => exact spanB_nomatch _ _ _ (by decide)
    | cons x xs => exact spanB_nomatch _ _ _ (noBlank_digit.not_blank (hhi x (by simp)))
  have h5 : spanB isDigitB (hi ++ 93 :: r) = (hi, 93 :: r) := spanB_stop isDigitB hi 93 r hhi (by decide)
  have h6 : spanB isBlank (93 :: r) = ([], 93 :: r) := spanB_nomatch _ _ _ (by decide)
  simp only [scanSize, scanSizeBody, h1, h2, List.isEmpty_cons, Bool.false_eq_true, if_false, h3, h4, h5, h6]
  cases hi <;> simp

theorem txtScan_size (ual : List Nat) (r raw : Bytes) (hscan : scanSize (91 :: r) = some raw)
    (hnb : raw.all (fun c => !isBlank c) = true) : txtScan ual (91 :: r) = .tok .itemSize raw raw .text := by
  rw [show txtScan ual (91 :: r) = (match scanSize (91 :: r) with
      | some raw => TScan.tok .itemSize (raw.filter (fun c => !isBlank c)) raw .text
      | none => .err .badSize) from rfl, hscan]
  simp only [List.filter_eq_self.mpr (List.all_eq_true.mp hnb)]

theorem noblank_digits (ds : Bytes) (hd : ∀ c ∈ ds, isDigitB c = true) : ds.all (fun c => !isBlank c) = true :=
  List.all_eq_true.mpr (fun c hc => by rw [noBlank_digit.not_blank (hd c hc)]; rfl)

theorem txtScan_size_single (ual : List Nat) (ds r : Bytes) (hne : ds ≠ []) (hd : ∀ c ∈ ds, isDigitB c = true) :
    txtScan ual (91 :: (ds ++ 93 :: r)) = .tok .itemSize (91 :: (ds ++ [93])) (91 :: (ds ++ [93])) .text :=
  txtScan_size ual _ _ (scanSize_single ds r hne hd) (by simp [List.all_append, noblank_digits ds hd]; decide)

theorem txtScan_size_dots (ual : List Nat) (lo hi r : Bytes) (hne : lo ≠ []) (hlo : ∀ c ∈ lo, isDigitB c = true)
    (hhi : ∀ c ∈ hi, isDigitB c = true) :
    txtScan ual (91 :: (lo ++ 46 :: 46 :: (hi ++ 93 :: r))) =
      .tok .itemSize (91 :: (lo ++ 46 :: 46 :: (hi ++ [93]))) (91 :: (lo ++ 46 :: 46 :: (hi ++ [93]))) .text :=
  txtScan_size ual _ _ (scanSize_dots lo hi r hne hlo hhi)
    (by simp [List.all_append, noblank_digits lo hlo, noblank_digits hi hhi]; decide)

theorem Stop.not_dot_exp {f : Nat} (hf : Stop f) : f ≠ 46 ∧ f ≠ 101 ∧ f ≠ 69 := by
  rcases hf with rfl | rfl | rfl <;> decide

/-- the text of a number without fraction and exponent, in the stages of the scanner: a sign, a
base prefix that announces the digit class `dp`, digits of that class, then a stop byte -/
theorem scanNumber_plain (sign pre : Bytes) (dp : Nat → Bool) (ds : Bytes) (f : Nat) (r : Bytes)
    (hsign : numSign (sign ++ (pre ++ (ds ++ f :: r))) = (sign, pre ++ (ds ++ f :: r)))
    (hpre : numPre (pre ++ (ds ++ f :: r)) = (pre, dp, ds ++ f :: r))
    (hds : ∀ x ∈ ds, dp x = true) (hdp : dp f = false) (hf : Stop f) :
    scanNumber (sign ++ (pre ++ (ds ++ f :: r))) = sign ++ pre ++ ds := by
  obtain ⟨f46, f101, f69⟩ := hf.not_dot_exp
  have hfrac : numFrac dp (f :: r) = ([], f :: r) := by simp [numFrac, f46]
  have hexp : numExp (f :: r) = [] := by simp [numExp, f101, f69]
  rw [scanNumber_staged, hsign]
  simp only [hpre, spanB_stop dp ds f r hds hdp, hfrac, hexp, List.append_nil]

theorem scanNumber_dec (neg : Bool) (c : Nat) (ds : Bytes) (f : Nat) (r : Bytes) (hc : 49 ≤ c ∧ c ≤ 57)
    (hds : ∀ x ∈ ds, isDigitB x = true) (hf : Stop f) :
    scanNumber ((if neg then [45] else []) ++ c :: (ds ++ f :: r)) = (if neg then [45] else []) ++ c :: ds := by
  have h43 : c ≠ 43 := by omega
  have h45 : c ≠ 45 := by omega
  have h48 : c ≠ 48 := by omega
  have hp : numPre (c :: (ds ++ f :: r)) = ([], isDigitB, c :: (ds ++ f :: r)) := by simp [numPre, h48]
  have hcd : ∀ x ∈ c :: ds, isDigitB x = true := by
    intro x hx
    rcases List.mem_cons.mp hx with rfl | hx
    · simp [isDigitB]; omega
    · exact hds x hx
  have hfd : isDigitB f = false := by rcases hf with rfl | rfl | rfl <;> decide
  cases neg
  · exact scanNumber_plain [] [] isDigitB (c :: ds) f r (by simp [numSign, h43, h45]) hp hcd hfd hf
  · exact scanNumber_plain [45] [] isDigitB (c :: ds) f r rfl hp hcd hfd hf

theorem scanNumber_zero (f : Nat) (r : Bytes) (hf : Stop f) : scanNumber (48 :: f :: r) = [48] := by
  rcases hf with rfl | rfl | rfl <;> rfl

theorem scanNumber_bin (bits : Bytes) (f : Nat) (r : Bytes) (hb : ∀ x ∈ bits, x = 48 ∨ x = 49) (hf : Stop f) :
    scanNumber (48 :: 98 :: (bits ++ f :: r)) = 48 :: 98 :: bits :=
  scanNumber_plain [] [48, 98] isBinB bits f r rfl rfl
    (by intro x hx; rcases hb x hx with rfl | rfl <;> rfl) (by rcases hf with rfl | rfl | rfl <;> decide) hf

theorem scanNumber_hex (h1 h2 : Nat) (f : Nat) (r : Bytes) (hh1 : isHexB h1 = true) (hh2 : isHexB h2 = true) (hf : Stop f) :
    scanNumber (48 :: 120 :: h1 :: h2 :: f :: r) = [48, 120, h1, h2] :=
  scanNumber_plain [] [48, 120] isHexB [h1, h2] f r rfl rfl
    (by intro x hx; simp at hx; rcases hx with rfl | rfl <;> assumption) (by rcases hf with rfl | rfl | rfl <;> decide) hf

theorem nextIsAlnum_end (ual : List Nat) (f : Nat) (r : Bytes) (hf : Stop f) : nextIsAlnum ual (f :: r) = false := by
  rcases hf with rfl | rfl | rfl <;> simp [nextIsAlnum, isWordB, isAlphaB, isUpperB, isLowerB, isDigitB]

theorem txtScan_number (ual : List Nat) (b : Nat) (n' : Bytes) (f : Nat) (r : Bytes) (hb : b = 45 ∨ isDigitB b = true)
    (hscan : scanNumber (b :: (n' ++ f :: r)) = b :: n') (hf : Stop f) :
    txtScan ual (b :: (n' ++ f :: r)) = .tok .number (b :: n') (b :: n') .text := by
  have hb47 : b ≠ 47 ∧ b ≠ 46 ∧ isIdentStartB b = false := by
    rcases hb with rfl | hb
    · decide
    · simp only [isDigitB, Bool.and_eq_true, decide_eq_true_eq] at hb
      refine ⟨by omega, by omega, ?_⟩
      simp [isIdentStartB, isAlphaB, isUpperB, isLowerB]; omega
  have hsn : startsNumber (b :: (n' ++ f :: r)) = true := by
    rcases hb with rfl | hb
    · simp [startsNumber]
    · simp [startsNumber, hb]
  obtain ⟨hsw, hme⟩ := not_comment_not_ellipsis b (n' ++ f :: r) hb47.1 hb47.2.1
  have hmw : matchWord (b :: (n' ++ f :: r)) = none := by simp [matchWord, hb47.2.2]
  have hdrop : (b :: (n' ++ f :: r)).drop (b :: n').length = f :: r := by
    rw [show b :: (n' ++ f :: r) = (b :: n') ++ f :: r from rfl, List.drop_left]
  simp only [txtScan, hsw, Bool.false_eq_true, if_false, hme, hmw, hsn, if_true, hscan, hdrop, nextIsAlnum_end ual f r hf]

theorem scanQuoted_run (run more : Bytes) (hq : ∀ x ∈ run, x ≠ 34) (hnl : ∀ x ∈ run, x ≠ 13 ∧ x ≠ 10) :
    scanQuoted (34 :: (run ++ 34 :: more)) = some (34 :: (run ++ [34])) :=
  (scanQuoted_eq_some _ _).mpr ⟨⟨run, rfl, fun x hx => ⟨hq x hx, hnl x hx⟩⟩, ⟨more, by simp⟩⟩

theorem txtScan_quoted (ual : List Nat) (run more : Bytes) (hq : ∀ x ∈ run, x ≠ 34) (hnl : ∀ x ∈ run, x ≠ 13 ∧ x ≠ 10) :
    txtScan ual (34 :: (run ++ 34 :: more)) = .tok .quoted (34 :: (run ++ [34])) (34 :: (run ++ [34])) .text := by
  rw [show txtScan ual (34 :: (run ++ 34 :: more)) = (match scanQuoted (34 :: (run ++ 34 :: more)) with
      | some raw => TScan.tok .quoted raw raw .text
      | none => .err .unclosedString) from rfl, scanQuoted_run run more hq hnl]

theorem txtScan_ellipsis (ual : List Nat) (f : Nat) (r : Bytes) (hf : Stop f) :
    txtScan ual (46 :: 46 :: 46 :: f :: r) = .tok .ellipsis [46, 46, 46] [46, 46, 46] .text := by
  rcases hf with rfl | rfl | rfl <;> rfl

theorem idxGroups2_split : ∀ r : Bytes, idxGroups 2 r = true →
    ∃ ds g', r = ds ++ 93 :: g' ∧ (∀ x ∈ ds, isDigitB x = true) ∧ idxGroups 0 g' = true := by
  intro r
  induction r with
  | nil => intro h; simp [idxGroups] at h
  | cons b r ih =>
    intro h
    simp only [idxGroups] at h
    by_cases hb : isDigitB b = true
    · rw [if_pos hb] at h
      obtain ⟨ds, g', hr, hd, hg⟩ := ih h
      exact ⟨b :: ds, g', by simp [hr], by intro x hx; rcases List.mem_cons.mp hx with rfl | hx; exact hb; exact hd x hx, hg⟩
    · rw [if_neg hb] at h
      simp only [Bool.and_eq_true, beq_iff_eq] at h
      exact ⟨[], r, by simp [h.1], by simp, h.2⟩

theorem idxGroups0_split (b : Nat) (r : Bytes) (h : idxGroups 0 (b :: r) = true) :
    ∃ ds g', b :: r = 91 :: (ds ++ 93 :: g') ∧ ds ≠ [] ∧ (∀ x ∈ ds, isDigitB x = true) ∧ idxGroups 0 g' = true := by
  simp only [idxGroups, Bool.and_eq_true, beq_iff_eq] at h
  obtain ⟨hb, h1⟩ := h
  cases r with
  | nil => simp [idxGroups] at h1
  | cons d r' =>
    simp only [idxGroups, Bool.and_eq_true] at h1
    obtain ⟨ds, g', hr, hd, hg⟩ := idxGroups2_split r' h1.2
    exact ⟨d :: ds, g', by simp [hb, hr], by simp, by intro x hx; rcases List.mem_cons.mp hx with rfl | hx; exact h1.1; exact hd x hx, hg⟩

theorem matchIdx_group (ds tail : Bytes) (hne : ds ≠ []) (hd : ∀ x ∈ ds, isDigitB x = true) :
    matchIdx (91 :: (ds ++ 93 :: tail)) = some (91 :: (ds ++ [93])) := by
  have hsp : spanB isDigitB (ds ++ 93 :: tail) = (ds, 93 :: tail) := spanB_stop isDigitB ds 93 tail hd (by decide)
  have hemp : ds.isEmpty = false := by cases ds <;> simp_all
  simp [matchIdx, hsp, hemp]

theorem matchIdxs_groups (g : Bytes) (fuel f : Nat) (more : Bytes) (hg : idxGroups 0 g = true)
    (hf : g.length < fuel) (hf91 : f ≠ 91) : matchIdxs fuel (g ++ f :: more) = g := by
  obtain _ | k := fuel
  · omega
  cases g with
  | nil =>
    have : matchIdx (f :: more) = none := by
      unfold matchIdx
      split
      · rename_i heq; injection heq with h1 _; exact absurd h1 hf91
      · rfl
    simp [matchIdxs, this]
  | cons b r =>
    obtain ⟨ds, g', hbr, hne, hd, hg'⟩ := idxGroups0_split b r hg
    rw [hbr] at hf ⊢
    have e : 91 :: (ds ++ 93 :: (g' ++ f :: more)) = 91 :: (ds ++ [93]) ++ (g' ++ f :: more) := by simp
    rw [List.cons_append, List.append_assoc, List.cons_append, matchIdxs, matchIdx_group ds _ hne hd]
    simp only [e, List.drop_left]
    rw [matchIdxs_groups g' k f more hg' (by simp at hf; omega) hf91]
    simp
termination_by g.length
decreasing_by subst_vars; rw [hbr]; simp; omega

/-- the name is not read as a type name or a boolean -/
def plainName : Name → Bool
  | [] => false
  | c0 :: r0 =>
    !typeKeywords.contains (upper (c0 :: (spanB isWordB r0).1)) && !boolKeywords.contains (upper (c0 :: (spanB isWordB r0).1))

theorem txtScan_variable (ual : List Nat) (nm : Name) (f : Nat) (more : Bytes)
    (hv : isValidVarName nm = true) (hpl : plainName nm = true) (hf : Stop f) :
    txtScan ual (nm ++ f :: more) = .tok .variable nm nm .text := by
  cases nm with
  | nil => simp [isValidVarName] at hv
  | cons c0 r0 =>
    simp only [isValidVarName, Bool.and_eq_true] at hv
    simp only [plainName, Bool.and_eq_true, Bool.not_eq_true'] at hpl
    obtain ⟨happ, hall, hhead⟩ := spanB_spec isWordB r0
    -- the name is its word part `w` and its index groups `g`
    generalize (spanB isWordB r0).1 = w at *
    generalize (spanB isWordB r0).2 = g at *
    subst happ
    have hf91 : f ≠ 91 := by rcases hf with rfl | rfl | rfl <;> decide
    obtain ⟨f', tail, hft, hf'w⟩ : ∃ f' tail, g ++ f :: more = f' :: tail ∧ isWordB f' = false := by
      cases g with
      | nil => exact ⟨f, more, rfl, hf.notWord⟩
      | cons b r' => exact ⟨b, r' ++ f :: more, rfl, hhead b r' rfl⟩
    have hrest : c0 :: (w ++ g) ++ f :: more = c0 :: (w ++ f' :: tail) := by rw [← hft]; simp
    rw [hrest, txtScan_word ual c0 w f' tail hv.1 hall hf'w, if_neg (by rw [hpl.1]; simp), if_neg (by rw [hpl.2]; simp), ← hft,
      matchIdxs_groups g _ f more hv.2 (by simp; omega) hf91]
    simp

end Lex
end Secs
