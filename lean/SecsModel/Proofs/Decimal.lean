/-
Digit strings and strconv. One fact carries everything: on a string of digits of base `b` the
digit loop of ParseUint returns the number the digits spell (`litVal`), or the range error once
that number exceeds the maximum (`puLoop_digits_base`). ParseUint and ParseInt on a literal, the
decimal printer and Atoi are read off from it (used by C04, C05, C15).
-/
import SecsModel.Basic
import SecsModel.Model.Strconv
namespace Secs
open Strconv

/-- the number a digit string denotes in base `b` -/
def litVal (b : Nat) (ds : Bytes) (acc : Nat := 0) : Nat := ds.foldl (fun a c => a * b + (digitVal c).getD 0) acc

/-- all characters are digits of base `b` -/
def digitsOf (b : Nat) (ds : Bytes) : Prop := ∀ c ∈ ds, ∃ d, digitVal c = some d ∧ d < b

def digitFold (acc : Nat) (ds : Bytes) : Nat := ds.foldl (fun a c => a * 10 + (c - 48)) acc

theorem digitVal_dec (c : Nat) (h : 48 ≤ c ∧ c ≤ 57) : digitVal c = some (c - 48) := by
  simp [digitVal, isDigitB, h.1, h.2]

theorem digitsOf_dec (b : Nat) (ds : Bytes) (hb : b ≤ 10) (h : ∀ c ∈ ds, 48 ≤ c ∧ c < 48 + b) : digitsOf b ds :=
  fun c hc => ⟨c - 48, digitVal_dec c (by have := h c hc; omega), by have := h c hc; omega⟩

theorem digitFold_eq_litVal (ds : Bytes) (hd : ∀ c ∈ ds, 48 ≤ c ∧ c ≤ 57) (acc : Nat) :
    digitFold acc ds = litVal 10 ds acc := by
  induction ds generalizing acc with
  | nil => rfl
  | cons c r ih =>
    simp only [digitFold, litVal, List.foldl_cons, digitVal_dec c (hd c (by simp)), Option.getD_some]
    exact ih (fun x hx => hd x (by simp [hx])) _

theorem litVal_mono (b : Nat) (ds : Bytes) (acc : Nat) (hb : 1 ≤ b) : acc ≤ litVal b ds acc := by
  induction ds generalizing acc with
  | nil => simp [litVal]
  | cons c r ih =>
    simp only [litVal, List.foldl_cons]
    have := ih (acc * b + (digitVal c).getD 0)
    simp only [litVal] at this
    have h1 : acc ≤ acc * b := Nat.le_mul_of_pos_right acc hb
    omega

theorem litVal_snoc (b : Nat) (ds : Bytes) (c : Nat) : litVal b (ds ++ [c]) = litVal b ds * b + (digitVal c).getD 0 := by
  simp [litVal]

theorem digit_not_underscore (c d : Nat) (h : digitVal c = some d) : (c == 95) = false := by
  cases hc : (c == 95) with
  | false => rfl
  | true =>
    have : c = 95 := by simpa using hc
    subst this
    simp [digitVal, isDigitB, isAlphaB, isUpperB, isLowerB] at h

theorem puLoop_digits_base (b maxVal : Nat) (b0 : Bool) (hb : 1 ≤ b) : ∀ (ds : Bytes) (acc : Nat),
    digitsOf b ds → acc ≤ maxVal →
    puLoop b maxVal b0 ds acc false =
      if litVal b ds acc ≤ maxVal then (litVal b ds acc, none, false) else (maxVal, some .range, false) := by
  intro ds
  induction ds with
  | nil => intro acc _ h; simp [puLoop, litVal, h]
  | cons c r ih =>
    intro acc hd hacc
    obtain ⟨d, hdv, hdb⟩ := hd c (by simp)
    have hstep : litVal b (c :: r) acc = litVal b r (acc * b + d) := by simp [litVal, hdv]
    have hmono := litVal_mono b r (acc * b + d) hb
    rw [hstep]
    simp only [puLoop, digit_not_underscore c d hdv, Bool.false_and, Bool.false_eq_true, if_false, hdv]
    rw [if_neg (by omega : ¬ d ≥ b)]
    by_cases h : acc * b + d > maxVal
    · rw [if_pos h, if_neg (by omega)]
    · rw [if_neg h]
      exact ih _ (fun x hx => hd x (by simp [hx])) (by omega)

theorem parseUint_digits (s ds : Bytes) (base b bits : Nat) (hs : s ≠ [])
    (hpre : (if (base == 0) = true then basePrefix s else (base, s)) = (b, ds)) (hb : 1 ≤ b) (hd : digitsOf b ds) :
    parseUint s base bits =
      if litVal b ds ≤ 2 ^ (if (bits == 0) = true then 64 else bits) - 1 then ⟨litVal b ds, none⟩
      else ⟨2 ^ (if (bits == 0) = true then 64 else bits) - 1, some .range⟩ := by
  have he : s.isEmpty = false := by cases s <;> simp_all
  unfold parseUint
  simp only [he, Bool.false_eq_true, if_false, hpre]
  generalize 2 ^ (if (bits == 0) = true then 64 else bits) - 1 = M
  rw [puLoop_digits_base b M (base == 0) hb ds 0 hd (Nat.zero_le _)]
  by_cases hfit : litVal b ds ≤ M
  · simp [hfit]
  · simp [hfit]

theorem basePrefix_ne (x : Nat) (t : Bytes) (h : x ≠ 48) : basePrefix (x :: t) = (10, x :: t) := by
  unfold basePrefix
  split
  · rename_i heq; injection heq with h1 _; exact absurd h1 h
  · rename_i heq; injection heq with h1 _; exact absurd h1 h
  · rfl

theorem splitSign_unsigned (u : Bytes) (hfirst : ∀ c r, u = c :: r → c ≠ 43 ∧ c ≠ 45) : splitSign u = (false, u) := by
  fun_cases splitSign u
  · exact absurd rfl (hfirst _ _ rfl).1
  · exact absurd rfl (hfirst _ _ rfl).2
  · rfl

theorem parseInt_of_parseUint (s u : Bytes) (neg : Bool) (base bits B v : Nat) (hs : s ≠ [])
    (hsplit : splitSign s = (neg, u)) (hB : (if (bits == 0) = true then 64 else bits) = B)
    (hu : parseUint u base bits = ⟨v, none⟩) (hfit : if neg then v ≤ 2 ^ (B - 1) else v < 2 ^ (B - 1)) :
    parseInt s base bits = ⟨if neg then -(v : Int) else v, none⟩ := by
  unfold parseInt
  have he : s.isEmpty = false := by cases s <;> simp_all
  simp only [he, Bool.false_eq_true, if_false, hsplit, hu, hB]
  cases neg
  · have h1 : ¬ (v ≥ 2 ^ (B - 1)) := by simpa using hfit
    simp [h1]
  · have h1 : ¬ (v > 2 ^ (B - 1)) := by simpa using hfit
    simp [h1]

/-- `f` stands for `decDigits` or `binDigits`: one proof for both printers -/
theorem digits_spec (b : Nat) (hb : 2 ≤ b ∧ b ≤ 10) (f : Nat → Bytes)
    (hf : ∀ n, f n = if n < b then [48 + n] else f (n / b) ++ [48 + n % b]) (n : Nat) :
    (∀ c ∈ f n, 48 ≤ c ∧ c < 48 + b) ∧ litVal b (f n) = n := by
  induction n using Nat.strongRecOn with
  | _ n ih =>
    rw [hf]
    by_cases h : n < b
    · simp only [h, if_true, List.mem_singleton, forall_eq, litVal, List.foldl_cons, List.foldl_nil,
        digitVal_dec (48 + n) (by omega), Option.getD_some]
      omega
    · have hlt : n % b < b := Nat.mod_lt _ (by omega)
      obtain ⟨h1, h2⟩ := ih (n / b) (Nat.div_lt_self (by omega) (by omega))
      simp only [h, if_false, litVal_snoc, h2, digitVal_dec (48 + n % b) (by omega), Option.getD_some]
      refine ⟨?_, by have := Nat.div_add_mod n b; rw [Nat.mul_comm] at this; omega⟩
      intro c hc
      rcases List.mem_append.mp hc with hc | hc
      · exact h1 c hc
      · simp only [List.mem_singleton] at hc; omega

theorem decDigits_lit (n : Nat) : (∀ c ∈ decDigits n, 48 ≤ c ∧ c < 48 + 10) ∧ litVal 10 (decDigits n) = n :=
  digits_spec 10 (by decide) decDigits (fun n => by rw [decDigits]; split <;> simp [*]) n

theorem decDigits_spec (n : Nat) : (∀ c ∈ decDigits n, 48 ≤ c ∧ c ≤ 57) ∧ digitFold 0 (decDigits n) = n := by
  have hr : ∀ c ∈ decDigits n, 48 ≤ c ∧ c ≤ 57 := fun c hc => by have := (decDigits_lit n).1 c hc; omega
  exact ⟨hr, by rw [digitFold_eq_litVal _ hr, (decDigits_lit n).2]⟩

theorem decDigits_small (w : Nat) (h : w < 10) : decDigits w = [48 + w] := by
  rw [decDigits]; simp [h]

theorem decDigits_isDigit (n : Nat) : ∀ c ∈ decDigits n, isDigitB c = true := fun c hc => by
  have := (decDigits_lit n).1 c hc
  simp [isDigitB]; omega

theorem decDigits_ne_nil (n : Nat) : decDigits n ≠ [] := by
  rw [decDigits]; split <;> simp

theorem puLoop_digits_over (maxVal : Nat) (ds : Bytes) (hd : ∀ c ∈ ds, 48 ≤ c ∧ c ≤ 57) (acc : Nat)
    (hacc : acc ≤ maxVal) (hgt : maxVal < digitFold acc ds) :
    puLoop 10 maxVal false ds acc false = (maxVal, some .range, false) := by
  rw [digitFold_eq_litVal ds hd] at hgt
  rw [puLoop_digits_base 10 maxVal false (by decide) ds acc
    (digitsOf_dec 10 ds (by decide) (fun c hc => by have := hd c hc; omega)) hacc, if_neg (by omega)]

theorem atoi_decDigits_total (n : Nat) :
    atoi (decDigits n) = if n < 2 ^ 63 then ⟨n, none⟩ else ⟨2 ^ 63 - 1, some .range⟩ := by
  obtain ⟨hr, hv⟩ := decDigits_lit n
  obtain ⟨c, r, hcr⟩ : ∃ c r, decDigits n = c :: r := by
    cases hd : decDigits n with
    | nil => exact absurd hd (decDigits_ne_nil n)
    | cons c r => exact ⟨c, r, rfl⟩
  have hsplit : splitSign (decDigits n) = (false, decDigits n) :=
    splitSign_unsigned _ (fun c' r' h => by have := hr c' (by rw [h]; simp); omega)
  have hu := parseUint_digits (decDigits n) (decDigits n) 10 10 0 (decDigits_ne_nil n) rfl (by decide)
    (digitsOf_dec 10 _ (by decide) hr)
  rw [hv] at hu
  unfold atoi
  by_cases hsmall : n < 2 ^ 63
  · rw [if_pos hsmall]
    rw [if_pos (by simp; omega)] at hu
    exact parseInt_of_parseUint _ _ false 10 0 64 n (decDigits_ne_nil n) hsplit rfl hu hsmall
  · rw [if_neg hsmall]
    unfold parseInt
    have he : (decDigits n).isEmpty = false := by rw [hcr]; rfl
    simp only [he, Bool.false_eq_true, if_false, hsplit, hu]
    by_cases hfit : n ≤ 2 ^ 64 - 1
    · have : (2 : Nat) ^ 63 ≤ n := by omega
      simp [hfit, this]
    · simp [hfit]
      rfl

theorem atoi_decDigits (n : Nat) (h : n < 2 ^ 63) : atoi (decDigits n) = ⟨n, none⟩ := by
  rw [atoi_decDigits_total, if_pos h]

/-- the value alone: the size parser (`sizeBounds`) ignores the range error that comes with the clamped value -/
theorem atoi_decDigits_val (n : Nat) : (atoi (decDigits n)).val = ((min n (2 ^ 63 - 1) : Nat) : Int) := by
  rw [atoi_decDigits_total]
  split
  · have : min n (2 ^ 63 - 1) = n := by omega
    rw [this]
  · have : min n (2 ^ 63 - 1) = 2 ^ 63 - 1 := by omega
    rw [this]; rfl

theorem parseInt_syntax_val (s : Bytes) (b bs : Nat) (h : (parseInt s b bs).err = some .syntax) :
    (parseInt s b bs).val = 0 := by
  revert h
  fun_cases parseInt s b bs <;> intro h <;> first | rfl | cases h

end Secs
