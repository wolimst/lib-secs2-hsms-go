/-
What an accepted token stream looks like at its end: the message loop, when it reports no error,
has consumed a prefix of the stream that is empty or ends with a message terminator, and stopped
in front of an end-of-input token (or at the end of the list).
-/
import SecsModel.Proofs.ParserConcat
namespace Secs
namespace Sml
open Lex

/-- the last element of a non-empty list has the property -/
def EndsWith (p : Tok → Prop) (l : List Tok) : Prop := l = [] ∨ ∃ pre d, l = pre ++ [d] ∧ p d

theorem EndsWith.getLast {p : Tok → Prop} {l : List Tok} (h : EndsWith p l) (d : Tok) (hd : l.getLast? = some d) : p d := by
  rcases h with rfl | ⟨pre, x, rfl, hx⟩
  · cases hd
  · simp only [List.getLast?_append, List.getLast?_singleton, Option.some_or, Option.some.injEq] at hd
    exact hd ▸ hx

theorem parseMessage_consumed (s : PS) (m : Msg) (s1 : PS) (h : parseMessage s = (some (some m), s1)) :
    ∃ pre d, s.toks = pre ++ d :: s1.toks ∧ d.kind = .msgEnd := by
  obtain ⟨_, hk, rfl⟩ := parseMessage_success s m s1 h
  obtain ⟨pre, hpre⟩ := (preFinish_suf s).trans (suf_pop s)
  exact ⟨pre, (preFinish s).peek, by rw [← hpre, ← toks_eq_peek_pop _ hk nofun], hk⟩

theorem parseLoop_consumed : ∀ (fuel : Nat) (s : PS) (acc : List Msg) (ms : List Msg) (sEnd : PS),
    s.toks.length < fuel → parseLoop fuel s acc = some (ms, sEnd) → sEnd.errs = [] →
    ∃ consumed, s.toks = consumed ++ sEnd.toks ∧ EndsWith (fun d => d.kind = .msgEnd) consumed ∧ sEnd.peek.kind = .eof := by
  intro fuel s acc ms sEnd hf h he
  have := parseLoop_clean (fun x => ∃ c, s.toks = c ++ x.toks ∧ EndsWith (fun d => d.kind = .msgEnd) c)
    (fun x m x1 ⟨c, hc, _⟩ hm => by
      obtain ⟨pre, d, hx, hd⟩ := parseMessage_consumed x m x1 hm
      exact ⟨c ++ pre ++ [d], by rw [hc, hx]; simp, Or.inr ⟨c ++ pre, d, rfl, hd⟩⟩)
    fuel s acc ms sEnd ⟨[], rfl, Or.inl rfl⟩ h he
  obtain ⟨⟨c, hc, hE⟩, hk⟩ := this
  exact ⟨c, hc, hE, hk hf⟩

theorem accepted_ends (A E : List Tok) (hA : ∀ t ∈ A, t.kind ≠ .eof) (hE : ∀ t ∈ E, t.kind = .eof)
    (ms : List Msg) (w : List Diag) (h : parseToks (A ++ E) = .done ms [] w) :
    EndsWith (fun d => d.kind = .msgEnd) A := by
  obtain ⟨sEnd, hrun, herr, _⟩ := parseToks_accepted _ _ _ h
  obtain ⟨c, e1, e2, e3⟩ := parseLoop_consumed _ _ _ _ _ (by simp) hrun herr
  simp only at e1
  -- the consumed part is exactly `A`: it cannot reach into `E`, and what is left cannot start in `A`
  suffices hcA : c = A by rw [← hcA]; exact e2
  rcases List.append_eq_append_iff.mp e1 with ⟨a', hc, hE'⟩ | ⟨c', hA', hR⟩
  · -- a terminator is not among the end-of-input tokens
    cases hl : a'.getLast? with
    | none => simpa [List.getLast?_eq_none_iff.mp hl] using hc
    | some x =>
      have hx := List.mem_of_getLast? hl
      have hm := e2.getLast x (by rw [hc, List.getLast?_append, hl]; rfl)
      rw [hE x (by simp [hE', hx])] at hm
      cases hm
  · -- what is left does not start inside `A`
    cases c' with
    | nil => simpa using hA'.symm
    | cons x xs =>
      exact absurd (peek_cons hR ▸ e3) (hA x (by simp [hA']))

theorem accepted_ends_msgEnd (T : List Tok) (hT : ∀ t ∈ T, t.kind ≠ .eof) (ms : List Msg) (w : List Diag)
    (h : parseToks T = .done ms [] w) : EndsWith (fun d => d.kind = .msgEnd) T :=
  accepted_ends T [] hT (fun _ ht => nomatch ht) ms w (by rwa [List.append_nil])

end Sml
end Secs
