/-
The value of an integer literal does not depend on the letter case of its base prefix and of its
hexadecimal digits: `strconv.ParseUint` / `ParseInt` (as modelled) read `0X1F`, `0x1f` and `0X1f`
alike - same value, same error. (The parser half of "letter case never changes what is parsed"
for numbers; that the lexer takes the same run of characters as one number token in either case
is decided by the metamorphic oracle.)
-/
import SecsModel.Proofs.Decimal
namespace Secs
namespace Strconv

/-- change the case of an ASCII letter, leave everything else alone -/
def swapCaseB (c : Nat) : Nat := if isUpperB c then c + 32 else if isLowerB c then c - 32 else c

theorem swapCaseB_cases (c : Nat) :
    (65 ≤ c ∧ c ≤ 90 ∧ swapCaseB c = c + 32) ∨ (97 ≤ c ∧ c ≤ 122 ∧ swapCaseB c = c - 32) ∨
      ((c < 65 ∨ 90 < c) ∧ (c < 97 ∨ 122 < c) ∧ swapCaseB c = c) := by
  simp only [swapCaseB, isUpperB, isLowerB, Bool.and_eq_true, decide_eq_true_eq]
  split
  · rename_i h; exact .inl ⟨h.1, h.2, rfl⟩
  · split
    · rename_i h; exact .inr (.inl ⟨h.1, h.2, rfl⟩)
    · exact .inr (.inr ⟨by omega, by omega, rfl⟩)

theorem lowerB_upper {c : Nat} (h1 : 65 ≤ c) (h2 : c ≤ 90) : lowerB c = c + 32 := by
  simp only [lowerB, isUpperB, h1, h2, decide_true, Bool.and_self, if_true]

theorem lowerB_other {c : Nat} (h : c < 65 ∨ 90 < c) : lowerB c = c := by
  have : (decide (65 ≤ c) && decide (c ≤ 90)) = false := by
    simp only [Bool.and_eq_false_iff, decide_eq_false_iff_not]; omega
  simp only [lowerB, isUpperB, this, Bool.false_eq_true, if_false]

theorem lowerB_swap (c : Nat) : lowerB (swapCaseB c) = lowerB c := by
  rcases swapCaseB_cases c with ⟨h1, h2, h⟩ | ⟨h1, h2, h⟩ | ⟨h1, h2, h⟩ <;> rw [h]
  · rw [lowerB_other (.inr (by omega)), lowerB_upper h1 h2]
  · rw [lowerB_upper (by omega) (by omega), lowerB_other (.inr (by omega))]; omega

theorem isDigitB_swap (c : Nat) : isDigitB (swapCaseB c) = isDigitB c := by
  rw [Bool.eq_iff_iff]
  simp only [isDigitB, Bool.and_eq_true, decide_eq_true_eq]
  rcases swapCaseB_cases c with ⟨h1, h2, h⟩ | ⟨h1, h2, h⟩ | ⟨h1, h2, h⟩ <;> rw [h] <;> omega

theorem isAlphaB_swap (c : Nat) : isAlphaB (swapCaseB c) = isAlphaB c := by
  rw [Bool.eq_iff_iff]
  simp only [isAlphaB, isUpperB, isLowerB, Bool.or_eq_true, Bool.and_eq_true, decide_eq_true_eq]
  rcases swapCaseB_cases c with ⟨h1, h2, h⟩ | ⟨h1, h2, h⟩ | ⟨h1, h2, h⟩ <;> rw [h] <;> omega

theorem swap_eq_iff (c k : Nat) (hk : isAlphaB k = false) : (swapCaseB c == k) = (c == k) := by
  simp only [isAlphaB, isUpperB, isLowerB, Bool.or_eq_false_iff, Bool.and_eq_false_iff, decide_eq_false_iff_not] at hk
  rw [Bool.eq_iff_iff]
  simp only [beq_iff_eq]
  rcases swapCaseB_cases c with ⟨h1, h2, h⟩ | ⟨h1, h2, h⟩ | ⟨h1, h2, h⟩ <;> rw [h] <;> omega

/-- a map on characters that may change the letter case of a letter and nothing else -/
class CaseMap (f : Nat → Nat) : Prop where
  lower : ∀ c, lowerB (f c) = lowerB c
  digit : ∀ c, isDigitB (f c) = isDigitB c
  alpha : ∀ c, isAlphaB (f c) = isAlphaB c
  eqk : ∀ c k, isAlphaB k = false → (f c == k) = (c == k)

instance : CaseMap swapCaseB := ⟨lowerB_swap, isDigitB_swap, isAlphaB_swap, swap_eq_iff⟩

section
variable {f : Nat → Nat} [CaseMap f]

theorem digitVal_case (c : Nat) : digitVal (f c) = digitVal c := by
  unfold digitVal
  rw [(CaseMap.digit (f := f)), (CaseMap.alpha (f := f)), (CaseMap.lower (f := f))]
  by_cases hd : isDigitB c = true
  · -- a digit is no letter: unchanged
    have hna : isAlphaB c = false := by
      unfold isDigitB at hd
      simp only [Bool.and_eq_true, decide_eq_true_eq] at hd
      unfold isAlphaB isUpperB isLowerB
      simp only [Bool.or_eq_false_iff, Bool.and_eq_false_iff, decide_eq_false_iff_not]; omega
    have : f c = c := by
      have := CaseMap.eqk (f := f) c c hna
      simpa using this
    rw [this]
  · simp [hd]

theorem puLoop_case (base maxVal : Nat) (base0 : Bool) : ∀ (s : Bytes) (n : Nat) (u : Bool),
    puLoop base maxVal base0 (s.map f) n u = puLoop base maxVal base0 s n u
  | [], _, _ => rfl
  | c :: r, n, u => by
    simp only [List.map_cons, puLoop, digitVal_case, CaseMap.eqk (f := f) c 95 (by decide), puLoop_case base maxVal base0 r]

theorem usLoop_case (hex : Bool) : ∀ (s : Bytes) (st : Nat), usLoop hex (s.map f) st = usLoop hex s st
  | [], _ => rfl
  | c :: r, st => by
    simp only [List.map_cons, usLoop, (CaseMap.digit (f := f)), (CaseMap.lower (f := f)), CaseMap.eqk (f := f) c 95 (by decide),
      usLoop_case hex r]

theorem case_fixed (k : Nat) (hk : isAlphaB k = false) : f k = k := by
  have := CaseMap.eqk (f := f) k k hk
  simpa using this

theorem case_ne (c k : Nat) (hk : isAlphaB k = false) (h : c ≠ k) : f c ≠ k :=
  fun e => by
    have := CaseMap.eqk (f := f) c k hk
    rw [e] at this
    exact h (by simpa using this.symm)

theorem basePrefix_case (s : Bytes) :
    basePrefix (s.map f) = ((basePrefix s).1, (basePrefix s).2.map f) := by
  cases s with
  | nil => rfl
  | cons x t =>
    by_cases hx : x = 48
    · subst hx
      cases t with
      | nil => rw [List.map_cons, case_fixed (f := f) 48 (by decide)]; rfl
      | cons c r =>
        have h48 : f 48 = 48 := case_fixed (f := f) 48 (by decide)
        rw [List.map_cons, List.map_cons, h48]
        show _ = Prod.map id (List.map f) (basePrefix (48 :: c :: r))
        simp only [basePrefix, (CaseMap.lower (f := f)), List.length_cons, List.length_map, apply_ite (Prod.map id (List.map f)),
          Prod.map_apply, id, List.map_cons]
    · rw [List.map_cons, basePrefix_ne _ _ (case_ne (f := f) x 48 (by decide) hx), basePrefix_ne _ _ hx]
      rfl

/-- underscoreOK after the sign -/
def usHead (s : Bytes) : Bool :=
  match s with
  | 48 :: c :: r =>
    if lowerB c == 98 || lowerB c == 111 || lowerB c == 120 then usLoop (lowerB c == 120) r 1
    else usLoop false s 0
  | _ => usLoop false s 0

theorem underscoreOK_eq (s : Bytes) : underscoreOK s = usHead (splitSign s).2 := by
  cases s with
  | nil => rfl
  | cons x t =>
    by_cases h43 : x = 43
    · subst h43; rfl
    · by_cases h45 : x = 45
      · subst h45; rfl
      · rw [splitSign_unsigned (x :: t) (by intro c r h; injection h with h _; subst h; exact ⟨h43, h45⟩)]
        unfold underscoreOK
        split
        · rename_i heq; injection heq with h1 _; exact absurd h1 h43
        · rename_i heq; injection heq with h1 _; exact absurd h1 h45
        · rfl

theorem splitSign_case (s : Bytes) : splitSign (s.map f) = ((splitSign s).1, (splitSign s).2.map f) := by
  cases s with
  | nil => rfl
  | cons x t =>
    by_cases h43 : x = 43
    · subst h43; rw [List.map_cons, case_fixed (f := f) 43 (by decide)]; rfl
    · by_cases h45 : x = 45
      · subst h45; rw [List.map_cons, case_fixed (f := f) 45 (by decide)]; rfl
      · rw [splitSign_unsigned (x :: t) (by intro c r h; injection h with h _; subst h; exact ⟨h43, h45⟩), List.map_cons,
          splitSign_unsigned (f x :: t.map f) (by
            intro c r h; injection h with h _; subst h
            exact ⟨case_ne (f := f) x 43 (by decide) h43, case_ne (f := f) x 45 (by decide) h45⟩)]

theorem usHead_ne (x : Nat) (t : Bytes) (h : x ≠ 48) : usHead (x :: t) = usLoop false (x :: t) 0 := by
  unfold usHead
  split
  · rename_i heq; injection heq with h1 _; exact absurd h1 h
  · rfl

theorem usHead_case (s : Bytes) : usHead (s.map f) = usHead s := by
  cases s with
  | nil => rfl
  | cons x t =>
    by_cases hx : x = 48
    · subst hx
      cases t with
      | nil => rw [List.map_cons, case_fixed (f := f) 48 (by decide)]; rfl
      | cons c r =>
        have h48 : f 48 = 48 := case_fixed (f := f) 48 (by decide)
        have e := usLoop_case (f := f) false (48 :: c :: r) 0
        simp only [List.map_cons, h48] at e
        simp only [List.map_cons, h48, usHead, (CaseMap.lower (f := f)), usLoop_case (f := f), e]
    · have e := usLoop_case (f := f) false (x :: t) 0
      rw [List.map_cons] at e ⊢
      rw [usHead_ne _ _ (case_ne (f := f) x 48 (by decide) hx), usHead_ne _ _ hx, e]

theorem underscoreOK_case (s : Bytes) : underscoreOK (s.map f) = underscoreOK s := by
  rw [underscoreOK_eq, underscoreOK_eq, splitSign_case, usHead_case]

theorem parseUint_case (s : Bytes) (base bitSize : Nat) : parseUint (s.map f) base bitSize = parseUint s base bitSize := by
  unfold parseUint
  have he : (s.map f).isEmpty = s.isEmpty := by cases s <;> rfl
  rw [he]
  cases s.isEmpty
  · simp only [Bool.false_eq_true, if_false]
    by_cases hb : (base == 0) = true
    · simp only [hb, if_true, basePrefix_case, puLoop_case, underscoreOK_case]
    · simp only [hb, if_false, Bool.false_eq_true, puLoop_case, underscoreOK_case]
  · rfl

theorem parseInt_case (s : Bytes) (base bitSize : Nat) : parseInt (s.map f) base bitSize = parseInt s base bitSize := by
  unfold parseInt
  have he : (s.map f).isEmpty = s.isEmpty := by cases s <;> rfl
  rw [he, splitSign_case]
  simp only [parseUint_case]

end

theorem lowerB_idem (c : Nat) : lowerB (lowerB c) = lowerB c := by
  by_cases h : 65 ≤ c ∧ c ≤ 90
  · rw [lowerB_upper h.1 h.2, lowerB_other (.inr (by omega))]
  · have hc : lowerB c = c := lowerB_other (by omega)
    rw [hc, hc]

theorem lowerB_cases (c : Nat) : lowerB c = c ∨ (isUpperB c = true ∧ lowerB c = swapCaseB c) := by
  unfold lowerB swapCaseB
  by_cases h : isUpperB c = true
  · right; simp [h]
  · left; simp [h]

instance : CaseMap lowerB where
  lower := lowerB_idem
  digit c := by rcases lowerB_cases c with h | ⟨_, h⟩ <;> rw [h]; exact isDigitB_swap c
  alpha c := by rcases lowerB_cases c with h | ⟨_, h⟩ <;> rw [h]; exact isAlphaB_swap c
  eqk c k hk := by rcases lowerB_cases c with h | ⟨_, h⟩ <;> rw [h]; exact swap_eq_iff c k hk

theorem parseUint_same_lower (s1 s2 : Bytes) (h : s1.map lowerB = s2.map lowerB) (base bitSize : Nat) :
    parseUint s1 base bitSize = parseUint s2 base bitSize := by
  rw [← parseUint_case (f := lowerB) s1, ← parseUint_case (f := lowerB) s2, h]

theorem parseInt_same_lower (s1 s2 : Bytes) (h : s1.map lowerB = s2.map lowerB) (base bitSize : Nat) :
    parseInt s1 base bitSize = parseInt s2 base bitSize := by
  rw [← parseInt_case (f := lowerB) s1, ← parseInt_case (f := lowerB) s2, h]

end Strconv
end Secs
