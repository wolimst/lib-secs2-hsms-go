/-
A sub-parser that gives up has reported why: every `stop` outcome leaves an error in the state,
and a message that is not built (`parseMessage … = none`) leaves one too. So "no error" means the
message loop ran until it saw the end of the token stream.
-/
import SecsModel.Proofs.ParserFuel
namespace Secs
namespace Sml
open Lex

-- patterns on the analysed argument only, the rest by `fun`: a pattern over all arguments builds a matcher over each
theorem arrayArgs_none_err (ty : Bytes) (w : Nat) : ∀ (ts : List Tok) (s : PS),
    (arrayArgs ty w ts s).1 = none → (arrayArgs ty w ts s).2.errs ≠ []
  | [] => fun _ => nofun
  | t :: r => fun s => by
    unfold arrayArgs
    split
    · exact fun _ => err_errs_ne _ _ _
    · split
      · exact fun _ => err_errs_ne _ _ _
      · rename_i g s1 _
        have ih := arrayArgs_none_err ty w r s1
        split
        · nofun
        · rename_i h; rw [h] at ih; exact ih

theorem asciiItem_stop_err (lo hi : Int) (s : PS) : (asciiItem lo hi s).1 = .stop → (asciiItem lo hi s).2.errs ≠ [] :=
  asciiLoop_stop_err _ _ _ _ _ _

theorem arrayItem_stop_err (ty : Bytes) (s : PS) : (arrayItem ty s).1 = .stop → (arrayItem ty s).2.errs ≠ [] := by
  have ha := arrayArgs_none_err ty (widthOfType ty) (valueTokens (s.toks.length + 1) s).1 (valueTokens (s.toks.length + 1) s).2
  unfold arrayItem
  dsimp only
  split
  · rename_i h; rw [h] at ha; exact fun _ => ha rfl
  · exact fun h => absurd h (ofFactory_ne_stop _)

theorem closeTail_stop_err (item : Tmpl) (s : PS) : (closeTail item s).1 = .stop → (closeTail item s).2.errs ≠ [] := by
  fun_cases closeTail item s
  · exact fun _ => err_errs_ne _ _ _
  · nofun

theorem closeItem_stop_err (sizeTok : Tok) (lo hi : Int) (res : R Tmpl) (s : PS) (hs : res = .stop → s.errs ≠ []) :
    (closeItem sizeTok lo hi res s).1 = .stop → (closeItem sizeTok lo hi res s).2.errs ≠ [] := by
  fun_cases closeItem sizeTok lo hi res s
  · exact fun _ => hs rfl
  · nofun
  · exact closeTail_stop_err _ _
  · exact closeTail_stop_err _ _

theorem closeTail_not_panic (item : Tmpl) (s : PS) : (closeTail item s).1 ≠ .panic := by
  fun_cases closeTail item s <;> nofun

theorem closeItem_not_panic (sizeTok : Tok) (lo hi : Int) (res : R Tmpl) (s : PS) (hs : res ≠ .panic) :
    (closeItem sizeTok lo hi res s).1 ≠ .panic := by
  fun_cases closeItem sizeTok lo hi res s
  · nofun
  · exact absurd rfl hs
  · exact closeTail_not_panic _ _
  · exact closeTail_not_panic _ _

theorem recoverItem_stop_err (lab : Tok) (body : R Tmpl × PS) (hb : body.1 = .stop → body.2.errs ≠ []) :
    (recoverItem lab body).1 = .stop → (recoverItem lab body).2.errs ≠ [] := by
  fun_cases recoverItem lab body
  · exact fun _ => err_errs_ne _ _ _
  · exact hb

theorem recoverItem_not_panic (lab : Tok) (body : R Tmpl × PS) : (recoverItem lab body).1 ≠ .panic := by
  fun_cases recoverItem lab body
  · nofun
  · rename_i h; exact fun hp => h _ (Prod.ext hp rfl)

theorem itemBody_stop_err (ll : PS → R Tmpl × PS) (s : PS)
    (hll : ∀ x : PS, x.toks.length + 1 ≤ s.toks.length → (ll x).1 = .stop → (ll x).2.errs ≠ []) :
    (itemBody ll s).1 = .stop → (itemBody ll s).2.errs ≠ [] := by
  fun_cases itemBody ll s
  · exact fun _ => err_errs_ne _ _ _
  · exact fun _ => err_errs_ne _ _ _
  · rename_i tt hty ty s1 pk hpk d r
    have hp := pop_length s (k := .itemType) (by simpa [tt] using hty) nofun
    have hsd : d.2.2.2.toks.length ≤ s.pop.toks.length := (sizeDecl_suf s.pop).length_le
    apply closeItem_stop_err
    simp only [r]
    split
    · exact hll _ (by omega)
    · split
      · exact asciiItem_stop_err _ _ _
      · exact arrayItem_stop_err _ _

theorem parseItemF_not_panic : ∀ (fuel : Nat) (s : PS), (parseItemF fuel s).1 ≠ .panic
  | 0 => fun _ => nofun
  | fuel + 1 => fun s => by
    unfold parseItemF
    dsimp only
    split
    · nofun
    · exact recoverItem_not_panic _ _

theorem parseItem_stop_err : ∀ fuel : Nat,
    (∀ s : PS, s.toks.length < fuel → (parseItemF fuel s).1 = .stop → (parseItemF fuel s).2.errs ≠ []) ∧
    (∀ (c : Nat) (acc : List GoVal) (s : PS), s.toks.length + 2 ≤ fuel →
      (parseItemF.listLoop fuel c acc s).1 = .stop → (parseItemF.listLoop fuel c acc s).2.errs ≠ [])
  | 0 => ⟨fun s h => by omega, fun c acc s h => by omega⟩
  | fuel + 1 => by
    have ih := parseItem_stop_err fuel
    constructor
    · intro s hf
      unfold parseItemF
      dsimp only
      split
      · exact fun _ => err_errs_ne _ _ _
      · rename_i hlab
        have hp := pop_length s (k := .lab) (by simpa using hlab) nofun
        exact recoverItem_stop_err _ _ (itemBody_stop_err _ _ (fun x hx => ih.2 0 [] x (by omega)))
    · intro c acc s hf
      unfold parseItemF.listLoop
      dsimp only
      split
      · -- a child: it consumes its `<`, and gives up only with an error
        rename_i hk
        cases fuel with
        | zero => omega
        | succ j =>
          have hc := parseItemF_consumes j s hk
          have hst := ih.1 s (by omega)
          split
          · rename_i hch
            rw [hch] at hc
            exact ih.2 _ _ _ (by simp only at hc; omega)
          · rename_i r s1 hno hch
            rw [hch] at hst
            have hnp := parseItemF_not_panic (j + 1) s
            rw [hch] at hnp
            cases r with
            | ok child => exact absurd rfl (hno child)
            | stop => exact fun _ => hst rfl
            | panic => exact absurd rfl hnp
      · rename_i hk
        split <;> exact ih.2 _ _ _ (fuel_pop s hk nofun rfl hf)
      · rename_i hk
        split
        · exact fun _ => err_errs_ne _ _ _
        · split <;> exact ih.2 _ _ _ (fuel_pop s hk nofun rfl hf)
      · exact fun h => absurd h (ofFactory_ne_stop _)
      · exact fun _ => err_errs_ne _ _ _
      · exact fun _ => err_errs_ne _ _ _

theorem msgItem_not_ok_err (s : PS) : (∀ t, (msgItem s).1 ≠ .ok t) → (msgItem s).2.errs ≠ [] := by
  fun_cases msgItem s
  · exact fun h => absurd rfl (h _)
  · intro h
    cases hr : (parseItemF (s.toks.length + 1) s).1 with
    | ok t => exact absurd hr (h t)
    | stop => exact (parseItem_stop_err _).1 s (by omega) hr
    | panic => exact absurd hr (parseItemF_not_panic _ s)
  · exact fun _ => err_errs_ne _ _ _

theorem parseMessage_none_err (s : PS) (h : (parseMessage s).1 = none) : (parseMessage s).2.errs ≠ [] := by
  rcases parseMessage_run s with ⟨_, e⟩ | ⟨_, name, st, fn, wb, dir, e⟩ <;> rw [e] at h ⊢
  · exact err_errs_ne _ _ _
  · have hno := msgItem_not_ok_err (preItem s)
    rw [← preFinish_eq] at hno
    cases hi : (msgItem (preItem s)).1 with
    | ok it =>
      rw [hi] at h
      rw [finishMsg_ok] at h ⊢
      split
      · exact err_errs_ne _ _ _
      · rename_i hk; rw [if_neg hk] at h; cases h
    | stop => rw [finishMsg_stop]; exact hno (by rw [hi]; exact fun _ => nofun)
    | panic => rw [finishMsg_panic]; exact hno (by rw [hi]; exact fun _ => nofun)

/-- A run of the message loop that reports no error is a chain of messages built, up to an
end-of-input token (`parseMessage_none_err`); hence this invariant principle. -/
theorem parseLoop_clean (P : PS → Prop)
    (step : ∀ (x : PS) (m : Msg) (x1 : PS), P x → parseMessage x = (some (some m), x1) → P x1) :
    ∀ (fuel : Nat) (s : PS) (acc ms : List Msg) (sEnd : PS), P s → parseLoop fuel s acc = some (ms, sEnd) →
      sEnd.errs = [] → P sEnd ∧ (s.toks.length < fuel → sEnd.peek.kind = .eof)
  | 0 => fun s acc ms sEnd hs h _ => by
    simp only [parseLoop, Option.some.injEq, Prod.mk.injEq] at h
    exact ⟨h.2 ▸ hs, fun hf => by omega⟩
  | fuel + 1 => fun s acc ms sEnd hs h he => by
    unfold parseLoop at h
    split at h
    · rename_i hk
      simp only [Option.some.injEq, Prod.mk.injEq] at h
      exact h.2 ▸ ⟨hs, fun _ => eq_of_beq hk⟩
    · have hc := parseMessage_consumes s
      have hn := parseMessage_none_err s
      cases hm : parseMessage s with
      | mk o s1 =>
        rw [hm] at h hc hn
        match o, h, hc, hn with
        | none, h, _, hn =>
          simp only [Option.some.injEq, Prod.mk.injEq] at h
          exact absurd (h.2 ▸ he) (hn rfl)
        | some (some m), h, hc, _ =>
          have ih := parseLoop_clean P step fuel s1 (m :: acc) ms sEnd (step s m s1 hs hm) h he
          have := hc nofun
          exact ⟨ih.1, fun hf => ih.2 (by simp only at this; omega)⟩

/-- **No error means the loop ran to the end of the tokens**: a run of the message loop that
reports no error stopped because it saw an end-of-input token. -/
theorem parseLoop_clean_at_eof : ∀ (fuel : Nat) (s : PS) (acc : List Msg) (ms : List Msg) (sEnd : PS),
    s.toks.length < fuel → parseLoop fuel s acc = some (ms, sEnd) → sEnd.errs = [] → sEnd.peek.kind = .eof :=
  fun fuel s acc ms sEnd hf h he =>
    (parseLoop_clean (fun _ => True) (fun _ _ _ _ _ => trivial) fuel s acc ms sEnd trivial h he).2 hf

end Sml
end Secs
