/-
The parser is local in the token stream: what it does up to a point does not depend on the
tokens it has not reached. If a parser function, run on `T ++ Q`, stops with more than `Q` left,
then on `T ++ Q'` it returns the same value and the same state, with `Q'` in place of `Q`.
-/
import SecsModel.Proofs.ParserFuel
namespace Secs
namespace Sml
open Lex

/-- the same state, with the unread tokens `Q` replaced by `Q'` -/
def WSim (Q Q' : List Tok) (s s' : PS) : Prop := ∃ T, s.toks = T ++ Q ∧ s' = s.withToks (T ++ Q')

def Loc2 {α} (Q Q' : List Tok) (r r' : α × PS) : Prop := r'.1 = r.1 ∧ WSim Q Q' r.2 r'.2

theorem WSim.refl_of {Q Q' : List Tok} (s : PS) (T : List Tok) (h : s.toks = T ++ Q) : WSim Q Q' s (s.withToks (T ++ Q')) :=
  ⟨T, h, rfl⟩

theorem WSim.nonempty {Q Q' : List Tok} {s s' : PS} (h : WSim Q Q' s s') (hl : Q.length < s.toks.length) :
    ∃ t T1, s.toks = t :: T1 ++ Q ∧ s' = s.withToks (t :: T1 ++ Q') := by
  obtain ⟨T, h1, h2⟩ := h
  cases T with
  | nil => simp [h1] at hl
  | cons t T1 => exact ⟨t, T1, by simpa using h1, by simpa using h2⟩

theorem WSim.fields {Q Q' : List Tok} {s s' : PS} (h : WSim Q Q' s s') :
    s'.names = s.names ∧ s'.ell = s.ell ∧ s'.skipSize = s.skipSize ∧ s'.errs = s.errs ∧ s'.warns = s.warns := by
  obtain ⟨T, _, h2⟩ := h
  subst h2
  exact ⟨rfl, rfl, rfl, rfl, rfl⟩

/-- a function that never reads the tokens carries the simulation along -/
theorem WSim.through {α} {Q Q' : List Tok} {s s' : PS} (h : WSim Q Q' s s') (f : PS → α × PS)
    (hf : ∀ (x : PS) (l : List Tok), f (x.withToks l) = ((f x).1, (f x).2.withToks l)) (ht : ∀ x : PS, (f x).2.toks = x.toks) :
    Loc2 Q Q' (f s) (f s') := by
  obtain ⟨T, h1, h2⟩ := h
  subst h2
  rw [hf]
  exact ⟨rfl, T, by rw [ht]; exact h1, rfl⟩

section
variable {Q Q' : List Tok} {s s' : PS} (h : WSim Q Q' s s')
include h

theorem WSim.peek (hl : Q.length < s.toks.length) : s'.peek = s.peek := by
  obtain ⟨t, T1, h1, rfl⟩ := h.nonempty hl
  simp [PS.peek, h1]

theorem WSim.pop (hl : Q.length < s.toks.length) : WSim Q Q' s.pop s'.pop := by
  obtain ⟨t, T1, h1, rfl⟩ := h.nonempty hl
  exact ⟨T1, by simp [PS.pop, h1], by simp [PS.pop, PS.withToks, h1]⟩

theorem WSim.map (f : PS → PS) (hf : ∀ (x : PS) (l : List Tok), f (x.withToks l) = (f x).withToks l) :
    WSim Q Q' (f s) (f s') := by
  obtain ⟨T, h1, rfl⟩ := h
  exact ⟨T, by rw [toks_of_withToks f hf]; exact h1, by rw [hf]⟩

theorem WSim.err (t : Tok) (k : String) : WSim Q Q' (s.err t k) (s'.err t k) := h.map (·.err t k) fun _ _ => rfl
theorem WSim.warn (t : Tok) (k : String) : WSim Q Q' (s.warn t k) (s'.warn t k) := h.map (·.warn t k) fun _ _ => rfl
theorem WSim.addName (n : Name) : WSim Q Q' (s.addName n) (s'.addName n) := h.map (·.addName n) fun _ _ => rfl
theorem WSim.bumpEll : WSim Q Q' s.bumpEll s'.bumpEll := h.map (·.bumpEll) fun _ _ => rfl
theorem WSim.clearSkip : WSim Q Q' s.clearSkip s'.clearSkip := h.map (·.clearSkip) fun _ _ => rfl
theorem WSim.resetScope : WSim Q Q' s.resetScope s'.resetScope := h.map (·.resetScope) fun _ _ => rfl

end

-- patterns on the analysed argument only, the rest by `fun`: a pattern over all arguments builds a matcher over each
theorem valueTokens_loc (Q Q' : List Tok) : ∀ (fuel : Nat) (s s' : PS), WSim Q Q' s s' →
    Q.length < (valueTokens fuel s).2.toks.length → Loc2 Q Q' (valueTokens fuel s) (valueTokens fuel s')
  | 0 => fun s s' h _ => ⟨rfl, h⟩
  | fuel + 1 => fun s s' h hr => by
    have hl := Nat.lt_of_lt_of_le hr (valueTokens_suf _ s).length_le
    have ih := valueTokens_loc Q Q' fuel s.pop s'.pop (h.pop hl)
    revert hr
    unfold valueTokens
    simp only [h.peek hl]
    split
    · exact fun hr => ⟨by rw [(ih hr).1], (ih hr).2⟩
    · exact fun hr => ⟨by rw [(ih hr).1], (ih hr).2⟩
    · exact fun hr => ⟨by rw [(ih hr).1], (ih hr).2⟩
    · exact fun hr => ⟨by rw [(ih hr).1], (ih hr).2⟩
    · exact fun _ => ⟨rfl, h⟩
    · exact fun _ => ⟨rfl, h.pop hl⟩

theorem valueTokens_loc' (Q Q' : List Tok) (s s' : PS) (h : WSim Q Q' s s')
    (hr : Q.length < (valueTokens (s.toks.length + 1) s).2.toks.length) :
    Loc2 Q Q' (valueTokens (s.toks.length + 1) s) (valueTokens (s'.toks.length + 1) s') := by
  have e := valueTokens_fuel (s'.toks.length + 1) (s.toks.length + s'.toks.length + 1) s' (by omega) (by omega)
  rw [valueTokens_fuel _ (s.toks.length + s'.toks.length + 1) s (by omega) (by omega)] at hr ⊢
  rw [e]
  exact valueTokens_loc Q Q' _ s s' h hr

theorem sizeDecl_loc (Q Q' : List Tok) (s s' : PS) (h : WSim Q Q' s s') (hl : Q.length < s.toks.length) :
    (sizeDecl s').1 = (sizeDecl s).1 ∧ (sizeDecl s').2.1 = (sizeDecl s).2.1 ∧ (sizeDecl s').2.2.1 = (sizeDecl s).2.2.1 ∧
      WSim Q Q' (sizeDecl s).2.2.2 (sizeDecl s').2.2.2 := by
  unfold sizeDecl
  dsimp only
  rw [h.peek hl]
  split
  · exact ⟨rfl, rfl, rfl, h.pop hl⟩
  · exact ⟨rfl, rfl, rfl, h⟩

theorem asciiItem_loc (Q Q' : List Tok) (lo hi : Int) (s s' : PS) (h : WSim Q Q' s s')
    (hr : Q.length < (asciiItem lo hi s).2.toks.length) : Loc2 Q Q' (asciiItem lo hi s) (asciiItem lo hi s') := by
  unfold asciiItem at hr ⊢
  dsimp only at hr ⊢
  rw [asciiLoop_toks] at hr
  obtain ⟨hv, hw⟩ := valueTokens_loc' Q Q' s s' h hr
  rw [hv]
  exact hw.through (fun x => asciiLoop lo hi _ _ [] x) (fun x l => asciiLoop_withToks lo hi _ l _ [] x)
    (fun x => asciiLoop_toks lo hi _ _ [] x)

theorem arrayItem_loc (Q Q' : List Tok) (ty : Bytes) (s s' : PS) (h : WSim Q Q' s s')
    (hr : Q.length < (arrayItem ty s).2.toks.length) : Loc2 Q Q' (arrayItem ty s) (arrayItem ty s') := by
  rw [arrayItem_eq] at hr ⊢
  rw [arrayItem_eq]
  dsimp only at hr ⊢
  rw [arrayArgs_toks] at hr
  obtain ⟨hv, hw⟩ := valueTokens_loc' Q Q' s s' h hr
  obtain ⟨ha1, ha2⟩ := hw.through (fun x => arrayArgs ty (widthOfType ty) (valueTokens (s.toks.length + 1) s).1 x)
    (fun x l => arrayArgs_withToks ty (widthOfType ty) l _ x) (fun x => arrayArgs_toks ty (widthOfType ty) _ x)
  rw [hv]
  exact ⟨by dsimp only at ha1 ⊢; rw [ha1], ha2⟩

theorem closeTail_loc (Q Q' : List Tok) (item : Tmpl) (s s' : PS) (h : WSim Q Q' s s') (hl : Q.length < s.toks.length) :
    Loc2 Q Q' (closeTail item s) (closeTail item s') := by
  unfold closeTail
  dsimp only
  rw [h.clearSkip.peek hl]
  split
  · exact ⟨rfl, h.clearSkip.err _ _⟩
  · exact ⟨rfl, h.clearSkip.pop hl⟩

theorem closeItem_loc (Q Q' : List Tok) (sizeTok : Tok) (lo hi : Int) (res : R Tmpl) (s s' : PS) (h : WSim Q Q' s s')
    (hl : Q.length < s.toks.length) : Loc2 Q Q' (closeItem sizeTok lo hi res s) (closeItem sizeTok lo hi res s') := by
  unfold closeItem
  cases res with
  | stop => exact ⟨rfl, h⟩
  | panic => exact ⟨rfl, h⟩
  | ok item =>
    dsimp only
    rw [h.fields.2.2.1]
    split
    · exact closeTail_loc Q Q' item _ _ (h.err _ _) hl
    · exact closeTail_loc Q Q' item _ _ h hl

theorem recoverItem_loc (Q Q' : List Tok) (lab : Tok) (b b' : R Tmpl × PS) (h : Loc2 Q Q' b b') :
    Loc2 Q Q' (recoverItem lab b) (recoverItem lab b') := by
  obtain ⟨r, s⟩ := b
  obtain ⟨r', s'⟩ := b'
  obtain ⟨rfl, h2⟩ := h
  cases r' with
  | panic => exact ⟨rfl, (h2.err _ _).warn _ _⟩
  | stop => exact ⟨rfl, h2⟩
  | ok t => exact ⟨rfl, h2⟩

theorem itemBody_loc (Q Q' : List Tok) (ll : PS → R Tmpl × PS) (hsuf : ∀ x, (ll x).2.toks <:+ x.toks)
    (hll : ∀ x x', WSim Q Q' x x' → Q.length < (ll x).2.toks.length → Loc2 Q Q' (ll x) (ll x'))
    (s s' : PS) (h : WSim Q Q' s s') (hr : Q.length < (itemBody ll s).2.toks.length) :
    Loc2 Q Q' (itemBody ll s) (itemBody ll s') := by
  have hl := Nat.lt_of_lt_of_le hr (itemBody_suf ll hsuf s).length_le
  have h1 := h.pop hl
  by_cases hty : (s.peek.kind != .itemType) = true
  · unfold itemBody
    dsimp only
    rw [h.peek hl, if_pos hty, if_pos hty]
    exact ⟨rfl, h.err _ _⟩
  · by_cases hpk : (s.pop.peek.kind != .itemSize && s.pop.peek.kind == .error) = true
    · unfold itemBody at hr ⊢
      dsimp only at hr ⊢
      rw [if_neg hty, if_pos hpk] at hr
      rw [h.peek hl, h1.peek hr, if_neg hty, if_neg hty, if_pos hpk, if_pos hpk]
      exact ⟨rfl, h1.err _ _⟩
    · unfold itemBody at hr ⊢
      dsimp only at hr ⊢
      rw [if_neg hty, if_neg hpk] at hr
      -- the closing `>` is among the tokens kept, so are the values and the size declaration
      have hv := Nat.lt_of_lt_of_le hr (closeItem_suf _ _ _ _ _).length_le
      have hl1 : Q.length < s.pop.toks.length := by
        refine Nat.lt_of_lt_of_le hv (List.IsSuffix.length_le (.trans ?_ (sizeDecl_suf s.pop)))
        split
        · exact hsuf _
        · split
          · exact asciiItem_suf _ _ _
          · exact arrayItem_suf _ _
      obtain ⟨d1, d2, d3, dw⟩ := sizeDecl_loc Q Q' s.pop s'.pop h1 hl1
      rw [h.peek hl, h1.peek hl1, if_neg hty, if_neg hty, if_neg hpk, if_neg hpk, d1, d2, d3]
      clear hr
      revert hv
      split
      · intro hv
        obtain ⟨e, w⟩ := hll _ _ dw hv
        rw [e]
        exact closeItem_loc Q Q' _ _ _ _ _ _ w hv
      · split
        · intro hv
          obtain ⟨e, w⟩ := asciiItem_loc Q Q' _ _ _ _ dw hv
          rw [e]
          exact closeItem_loc Q Q' _ _ _ _ _ _ w hv
        · intro hv
          obtain ⟨e, w⟩ := arrayItem_loc Q Q' _ _ _ dw hv
          rw [e]
          exact closeItem_loc Q Q' _ _ _ _ _ _ w hv

theorem parseItem_loc (Q Q' : List Tok) : ∀ fuel : Nat,
    (∀ s s' : PS, WSim Q Q' s s' → Q.length < (parseItemF fuel s).2.toks.length →
      Loc2 Q Q' (parseItemF fuel s) (parseItemF fuel s')) ∧
    (∀ (c : Nat) (acc : List GoVal) (s s' : PS), WSim Q Q' s s' →
      Q.length < (parseItemF.listLoop fuel c acc s).2.toks.length →
      Loc2 Q Q' (parseItemF.listLoop fuel c acc s) (parseItemF.listLoop fuel c acc s'))
  | 0 => ⟨fun s s' h _ => ⟨rfl, h⟩, fun c acc s s' h _ => ⟨rfl, h⟩⟩
  | fuel + 1 => by
    have ih := parseItem_loc Q Q' fuel
    have hsuf := parseItem_suf fuel
    constructor
    · intro s s' h hr
      have hl := Nat.lt_of_lt_of_le hr ((parseItem_suf (fuel + 1)).1 s).length_le
      revert hr
      unfold parseItemF
      dsimp only
      rw [h.peek hl]
      split
      · exact fun _ => ⟨rfl, h.err _ _⟩
      · rw [recoverItem_toks]
        exact fun hr => recoverItem_loc Q Q' _ _ _
          (itemBody_loc Q Q' _ (hsuf.2 0 []) (ih.2 0 []) s.pop s'.pop (h.pop hl) hr)
    · intro c acc s s' h hr
      have hl := Nat.lt_of_lt_of_le hr ((parseItem_suf (fuel + 1)).2 c acc s).length_le
      have h1 := h.pop hl
      revert hr
      unfold parseItemF.listLoop
      dsimp only
      rw [h.peek hl]
      split
      · -- a child item: it ends before `Q` if the rest of the list does
        have key := ih.1 s s' h
        cases hc : parseItemF fuel s with
        | mk r s1 =>
          cases hc' : parseItemF fuel s' with
          | mk r' s1' =>
            rw [hc, hc'] at key
            cases r with
            | ok child =>
              intro hr
              obtain ⟨rfl, e2⟩ := key (Nat.lt_of_lt_of_le hr (hsuf.2 _ _ s1).length_le)
              exact ih.2 _ _ s1 s1' e2 hr
            | stop => intro hr; obtain ⟨rfl, e2⟩ := key hr; exact ⟨rfl, e2⟩
            | panic => intro hr; obtain ⟨rfl, e2⟩ := key hr; exact ⟨rfl, e2⟩
      · rw [h1.fields.1]
        split
        · exact ih.2 _ _ _ _ (h1.err _ _)
        · exact ih.2 _ _ _ _ (h1.addName _)
      · split
        · exact fun _ => ⟨rfl, h1.err _ _⟩
        · rw [h1.fields.2.1]
          split
          · exact ih.2 _ _ _ _ (h1.bumpEll.warn _ _)
          · exact ih.2 _ _ _ _ h1.bumpEll
      · exact fun _ => ⟨rfl, h⟩
      · exact fun _ => ⟨rfl, h.err _ _⟩
      · exact fun _ => ⟨rfl, h.err _ _⟩

theorem waitBitOf_loc (Q Q' : List Tok) (fn : Int) (s s' : PS) (h : WSim Q Q' s s') (hl : Q.length < s.toks.length) :
    Loc2 Q Q' (waitBitOf fn s) (waitBitOf fn s') := by
  unfold waitBitOf
  dsimp only
  rw [h.peek hl]
  split
  · split
    · split
      · exact ⟨rfl, (h.pop hl).err _ _⟩
      · exact ⟨rfl, h.pop hl⟩
    · exact ⟨rfl, h.pop hl⟩
  · exact ⟨rfl, h⟩

theorem directionOf_loc (Q Q' : List Tok) (s s' : PS) (h : WSim Q Q' s s') (hl : Q.length < s.toks.length) :
    Loc2 Q Q' (directionOf s) (directionOf s') := by
  unfold directionOf
  dsimp only
  rw [h.peek hl]
  split
  · exact ⟨rfl, h.pop hl⟩
  · exact ⟨rfl, h.warn _ _⟩

theorem nameOf_loc (Q Q' : List Tok) (s s' : PS) (h : WSim Q Q' s s') (hl : Q.length < s.toks.length) :
    Loc2 Q Q' (nameOf s) (nameOf s') := by
  unfold nameOf
  dsimp only
  rw [h.peek hl]
  split
  · exact ⟨rfl, h.pop hl⟩
  · exact ⟨rfl, h⟩

theorem msgItem_loc (Q Q' : List Tok) (s s' : PS) (h : WSim Q Q' s s')
    (hr : Q.length < (msgItem s).2.toks.length) : Loc2 Q Q' (msgItem s) (msgItem s') := by
  have hl := Nat.lt_of_lt_of_le hr (msgItem_suf s).length_le
  revert hr
  unfold msgItem
  dsimp only
  rw [h.peek hl]
  split
  · exact fun _ => ⟨rfl, h⟩
  · split
    · have e := (parseItem_fuel (s'.toks.length + 1) (s.toks.length + s'.toks.length + 1)).1 s' (by omega) (by omega)
      rw [(parseItem_fuel _ (s.toks.length + s'.toks.length + 1)).1 s (by omega) (by omega), e]
      exact (parseItem_loc Q Q' _).1 s s' h
    · exact fun _ => ⟨rfl, h.err _ _⟩

theorem finishMsg_loc (Q Q' : List Tok) (name : Bytes) (st fn wb : Int) (dir : Bytes) (item : R Tmpl) (s s' : PS)
    (h : WSim Q Q' s s') (hl : Q.length < s.toks.length) :
    Loc2 Q Q' (finishMsg name st fn wb dir item s) (finishMsg name st fn wb dir item s') := by
  cases item with
  | stop => exact ⟨rfl, h⟩
  | panic => exact ⟨rfl, h⟩
  | ok it =>
    rw [finishMsg_ok, finishMsg_ok, h.peek hl]
    split
    · exact ⟨rfl, h.err _ _⟩
    · exact ⟨rfl, h.pop hl⟩

/-- **One message is parsed the same whatever follows it**: if the terminator is looked for among
the tokens that are kept (`preFinish` still has more than `Q` left), the message, the diagnostics
and the consumed tokens do not depend on `Q`. -/
theorem parseMessage_loc (Q Q' : List Tok) (s s' : PS) (h : WSim Q Q' s s')
    (hr : Q.length < (preFinish s).toks.length) : Loc2 Q Q' (parseMessage s) (parseMessage s') := by
  rw [preFinish_eq] at hr
  -- every state the header passes through still holds what `preItem` holds, and that is more than `Q`
  have live : ∀ x : PS, (preItem s).toks <:+ x.toks → Q.length < x.toks.length := fun x hx =>
    Nat.lt_of_lt_of_le hr (((msgItem_suf (preItem s)).trans hx).length_le)
  have hl := live s ((preItem_suf s).trans (suf_pop s))
  have h0 := h.resetScope
  unfold preItem at hr live
  dsimp only at hr live
  unfold parseMessage
  dsimp only
  rw [h0.peek hl]
  split
  · exact ⟨rfl, h0.err _ _⟩
  · obtain ⟨e1, w1⟩ := (h0.pop hl).through (fun x => let r := streamFunction x s.resetScope.peek; ((r.1, r.2.1), r.2.2))
      (fun x l => by simp only [streamFunction_withToks]) (fun x => streamFunction_toks x _)
    obtain ⟨e1a, e1b⟩ := Prod.mk.inj e1
    dsimp only at e1a e1b w1
    rw [e1a, e1b]
    obtain ⟨e2, w2⟩ := waitBitOf_loc Q Q' (streamFunction s.resetScope.pop s.resetScope.peek).2.1 _ _ w1
      (live _ ((nameOf_suf _).trans ((directionOf_suf _).trans (waitBitOf_suf _ _))))
    rw [e2]
    obtain ⟨e3, w3⟩ := directionOf_loc Q Q' _ _ w2 (live _ ((nameOf_suf _).trans (directionOf_suf _)))
    rw [e3]
    obtain ⟨e4, w4⟩ := nameOf_loc Q Q' _ _ w3 (live _ (nameOf_suf _))
    rw [e4]
    obtain ⟨e5, w5⟩ := msgItem_loc Q Q' _ _ w4 hr
    rw [e5]
    exact finishMsg_loc Q Q' _ _ _ _ _ _ _ _ w5 hr

end Sml
end Secs
