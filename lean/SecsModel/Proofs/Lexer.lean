/-
Structural facts about the lexer model. One step is a function of the unread input (`hdrScan`,
`txtScan`: kind, value, consumed text, next mode); what it consumes is not empty and a prefix of
the input, so every step consumes input and the token stream is complete with `input.length + 1`
steps; every token carries the true position of an offset of the input.
-/
import SecsModel.Proofs.Scanners
namespace Secs
namespace Lex

theorem advanceN_rest (n : Nat) : ∀ p : Pos, (advanceN p n).rest = p.rest.drop n := by
  induction n with
  | zero => intro p; simp [advanceN]
  | succ n ih =>
    intro p
    cases hp : p.rest with
    | nil => simp [advanceN, hp]
    | cons x xs =>
      simp only [advanceN, hp]
      split <;> simp [ih]

theorem advance_rest (bs : Bytes) (p : Pos) : (advance p bs).rest = p.rest.drop bs.length :=
  advanceN_rest _ p

theorem advance_length (p : Pos) (bs : Bytes) : (advance p bs).rest.length = p.rest.length - bs.length := by
  rw [advance_rest, List.length_drop]

/-- how many bytes the lexer in mode `m` skips at the head of `x` in one round (0: it stops there): a
blank, and in the header state any white-space rune (`lexHeader` tests `unicode.IsSpace`) -/
def skipLen (m : Mode) (x : Bytes) : Nat :=
  match x with
  | [] => 0
  | b :: _ =>
    if isBlank b then 1
    else match m with
      | .text => 0
      | .header => if Utf8.isSpace (Utf8.decodeRune x).1 then (Utf8.decodeRune x).2 else 0

theorem skipLen_le (m : Mode) (x : Bytes) : skipLen m x ≤ x.length := by
  unfold skipLen
  repeat' split
  any_goals exact Nat.zero_le _
  · exact Nat.le_add_left _ _
  · exact Utf8.decodeRune_width_le _

theorem skipLen_blank (m : Mode) {w : Nat} (hw : isBlank w = true) (r : Bytes) : skipLen m (w :: r) = 1 := by
  simp only [skipLen, hw, if_true]

theorem skipLen_eq_zero {m : Mode} {c : Nat} {r : Bytes} (h : skipLen m (c :: r) = 0) :
    isBlank c = false ∧ (m = .header → Utf8.isSpace (Utf8.decodeRune (c :: r)).1 = false) := by
  have hw := Utf8.decodeRune_width_pos c r
  simp only [skipLen] at h
  split at h
  · cases h
  · rename_i hb
    refine ⟨by simpa using hb, fun hm => ?_⟩
    subst hm
    simp only at h
    split at h
    · omega
    · rename_i hs; simpa using hs

theorem skipLen_cut (m : Mode) (c : Nat) (r : Bytes) {w : Nat} (hw : isBlank w = true) (b : Bytes) :
    skipLen m (c :: r ++ w :: b) = skipLen m (c :: r) := by
  simp only [List.cons_append, skipLen, decodeRune_blank c r hw b]

/-- one round of `skipWs`; the only place where its case distinction is gone through (a byte below
128 is its own rune of width 1, so the two header branches are one) -/
theorem skipWs_step (m : Mode) (fuel : Nat) (p : Pos) :
    skipWs m (fuel + 1) p =
      if skipLen m p.rest = 0 then p else skipWs m fuel (advance p (p.rest.take (skipLen m p.rest))) := by
  rw [skipWs]
  cases hp : p.rest with
  | nil => rfl
  | cons b r =>
    -- the tests decided beforehand: `split` on the unfolded body is several times dearer
    by_cases hb : isBlank b = true
    · simp only [skipLen, hb, if_true]; rfl
    · cases m with
      | text => simp only [skipLen, hb, Bool.false_eq_true, if_false]; rfl
      | header =>
        have hw := Utf8.decodeRune_width_pos b r
        by_cases h128 : b < 128
        · simp only [skipLen, hb, Bool.false_eq_true, if_false, h128, if_true, Utf8.decodeRune_ascii b r h128]
          split <;> rfl
        · simp only [skipLen, hb, Bool.false_eq_true, h128, if_false]
          split
          · rw [if_neg (by omega)]
          · rfl

-- patterns on the analysed argument only, the rest by `fun`: a pattern over all arguments builds a matcher over each
theorem skipWs_le (m : Mode) : ∀ (fuel : Nat) (p : Pos), (skipWs m fuel p).rest.length ≤ p.rest.length
  | 0 => fun _ => Nat.le_refl _
  | fuel + 1 => fun p => by
    rw [skipWs_step]
    split
    · exact Nat.le_refl _
    · exact Nat.le_trans (skipWs_le m fuel _) (by rw [advance_length]; omega)

theorem take_ne_nil (s : Bytes) (w : Nat) (hs : s ≠ []) (hw : 1 ≤ w) : s.take w ≠ [] := by
  cases s with
  | nil => exact absurd rfl hs
  | cons a r => cases w with
    | zero => omega
    | succ n => simp

/-! ### one step, as a function of the unread input -/

open Utf8 in
/-- what the header state does with the unread input `s`, positions aside: kind, value, consumed
text and the mode after the token (`none`: end of input) -/
def hdrScan (s : Bytes) : Option (Kind × Bytes × Bytes × Mode) :=
  match s with
  | [] => none
  | b :: _ =>
    if startsWith [47, 47] s then some (.comment, (scanComment s).1, (scanComment s).1, .header)
    else match matchSF s with
    | some v => some (.streamFunction, upper v, v, .header)
    | none =>
    match matchW s with
    | some v => some (.waitBit, upper v, v, .header)
    | none =>
    match matchDir s with
    | some v => some (.direction, upper v, v, .header)
    | none =>
      if b == 46 then some (.msgEnd, [46], [46], .header)
      else if b == 60 then some (.lab, [60], [60], .text)
      else
        let name := s.take (max (decodeRune s).2 1) ++ scanName s.length (s.drop (max (decodeRune s).2 1))
        some (.msgName, name, name, .header)

theorem stepHeader_scan (p : Pos) :
    stepHeader p = match hdrScan p.rest with
      | none => .last (mkTok .eof [69, 79, 70] p)
      | some (k, v, raw, m) => emit k v raw m p := by
  unfold stepHeader
  simp only
  generalize p.rest = s
  fun_cases hdrScan s <;> simp [*]

inductive TScan where
  | eof
  | err (e : LexErr)
  | tok (k : Kind) (v raw : Bytes) (m : Mode)

def txtScan (ual : List Nat) (s : Bytes) : TScan :=
  match s with
  | [] => .eof
  | b :: _ =>
    if startsWith [47, 47] s then .tok .comment (scanComment s).1 (scanComment s).1 .text
    else match matchEllipsis s with
    | some v => .tok .ellipsis v v .text
    | none =>
    match matchWord s with
    | some w =>
      if typeKeywords.contains (upper w) then .tok .itemType (upper w) w .text
      else if boolKeywords.contains (upper w) then .tok .bool (upper w) w .text
      else .tok .variable (w ++ matchIdxs s.length (s.drop w.length)) (w ++ matchIdxs s.length (s.drop w.length)) .text
    | none =>
      if startsNumber s then
        if nextIsAlnum ual (s.drop (scanNumber s).length) then .err .badNumber
        else .tok .number (scanNumber s) (scanNumber s) .text
      else if b == 60 then .tok .lab [60] [60] .text
      else if b == 62 then .tok .rab [62] [62] .text
      else if b == 46 then .tok .msgEnd [46] [46] .header
      else if b == 91 then
        match scanSize s with
        | some raw => .tok .itemSize (raw.filter (fun c => !isBlank c)) raw .text
        | none => .err .badSize
      else if b == 34 then
        match scanQuoted s with
        | some raw => .tok .quoted raw raw .text
        | none => .err .unclosedString
      else .err .unexpectedChar

theorem stepText_scan (ual : List Nat) (p : Pos) :
    stepText ual p = match txtScan ual p.rest with
      | .eof => .last (mkTok .eof [69, 79, 70] p)
      | .err e => .last (mkErr e p)
      | .tok k v raw m => emit k v raw m p := by
  unfold stepText
  simp only
  generalize p.rest = s
  fun_cases txtScan ual s <;> simp_all

def nextMode (m : Mode) (k : Kind) : Mode :=
  match k with
  | .msgEnd => .header
  | .lab => .text
  | _ => m

theorem hdrScan_spec (s : Bytes) :
    match hdrScan s with
    | none => s = []
    | some (k, _, raw, m) => k ≠ .eof ∧ k ≠ .error ∧ m = nextMode .header k ∧ raw ≠ [] ∧ raw <+: s := by
  fun_cases hdrScan s <;> simp only [*, if_true, if_false, Bool.false_eq_true]
  · rename_i hc
    exact ⟨nofun, nofun, rfl, scanComment_ne_nil _ hc, scanComment_prefix _⟩
  · rename_i hv
    exact ⟨nofun, nofun, rfl, matchSF_ne_nil _ _ hv, matchSF_prefix hv⟩
  · rename_i hv
    exact ⟨nofun, nofun, rfl, matchW_ne_nil _ _ hv, matchW_prefix hv⟩
  · rename_i hv
    exact ⟨nofun, nofun, rfl, matchDir_ne_nil _ _ hv, matchDir_prefix hv⟩
  · rename_i b t hb _ _ _ _
    exact ⟨nofun, nofun, rfl, by simp, by simp_all⟩
  · rename_i b t _ hb _ _ _ _
    exact ⟨nofun, nofun, rfl, by simp, by simp_all⟩
  · rename_i b t _ _ _ _ _ _
    refine ⟨nofun, nofun, rfl, ?_, ?_⟩
    · have := Utf8.decodeRune_width_pos b t
      simp [List.take_eq_nil_iff]
    · obtain ⟨u, hu⟩ := scanName_prefix (b :: t).length ((b :: t).drop (max (Utf8.decodeRune (b :: t)).2 1))
      exact ⟨u, by rw [List.append_assoc, hu, List.take_append_drop]⟩

theorem hdrScan_tok {s : Bytes} {k : Kind} {v raw : Bytes} {m : Mode} (h : hdrScan s = some (k, v, raw, m)) :
    k ≠ .eof ∧ k ≠ .error ∧ m = nextMode .header k ∧ raw ≠ [] ∧ raw <+: s := by
  have := hdrScan_spec s
  rwa [h] at this

theorem hdrScan_cons_ne_none (c : Nat) (r : Bytes) : hdrScan (c :: r) ≠ none := fun h => by
  have := hdrScan_spec (c :: r)
  rw [h] at this
  cases this

/-- what the text step returns: the end-of-input token on the empty input only; a token is a proper
token whose text is not empty and begins the input, and the mode follows from its kind -/
theorem txtScan_spec (ual : List Nat) (s : Bytes) :
    match txtScan ual s with
    | .eof => s = []
    | .err _ => True
    | .tok k _ raw m =>
      k ≠ .eof ∧ k ≠ .error ∧ k ≠ .direction ∧ k ≠ .msgName ∧ m = nextMode .text k ∧ raw ≠ [] ∧ raw <+: s := by
  fun_cases txtScan ual s <;> simp only [*, if_true, if_false, Bool.false_eq_true]
  · exact ⟨nofun, nofun, nofun, nofun, rfl, scanComment_ne_nil _ ‹_›, scanComment_prefix _⟩
  · exact ⟨nofun, nofun, nofun, nofun, rfl, matchEllipsis_ne_nil _ _ ‹_›, matchEllipsis_prefix ‹_›⟩
  · exact ⟨nofun, nofun, nofun, nofun, rfl, matchWord_ne_nil _ _ ‹_›, matchWord_prefix ‹_›⟩
  · exact ⟨nofun, nofun, nofun, nofun, rfl, matchWord_ne_nil _ _ ‹_›, matchWord_prefix ‹_›⟩
  · rename_i b t w _ _ _ _ hv
    refine ⟨nofun, nofun, nofun, nofun, rfl, fun e => matchWord_ne_nil _ _ hv (List.append_eq_nil_iff.mp e).1, ?_⟩
    obtain ⟨u, hu⟩ := matchWord_prefix hv
    obtain ⟨u', hu'⟩ := matchIdxs_prefix (b :: t).length ((b :: t).drop w.length)
    refine ⟨u', ?_⟩
    rw [← hu] at hu' ⊢
    simpa using hu'
  · exact ⟨nofun, nofun, nofun, nofun, rfl, scanNumber_ne_nil _ ‹_›, scanNumber_prefix _⟩
  · exact ⟨nofun, nofun, nofun, nofun, rfl, by simp, by simp_all⟩
  · exact ⟨nofun, nofun, nofun, nofun, rfl, by simp, by simp_all⟩
  · exact ⟨nofun, nofun, nofun, nofun, rfl, by simp, by simp_all⟩
  · exact ⟨nofun, nofun, nofun, nofun, rfl, scanSize_ne_nil _ _ ‹_›, scanSize_prefix ‹_›⟩
  · exact ⟨nofun, nofun, nofun, nofun, rfl, scanQuoted_ne_nil _ _ ‹_›, ((scanQuoted_eq_some _ _).mp ‹_›).2⟩

theorem txtScan_tok {ual : List Nat} {s : Bytes} {k : Kind} {v raw : Bytes} {m : Mode}
    (h : txtScan ual s = .tok k v raw m) :
    k ≠ .eof ∧ k ≠ .error ∧ k ≠ .direction ∧ k ≠ .msgName ∧ m = nextMode .text k ∧ raw ≠ [] ∧ raw <+: s := by
  have := txtScan_spec ual s
  rwa [h] at this

theorem txtScan_cons_ne_eof (ual : List Nat) (c : Nat) (r : Bytes) : txtScan ual (c :: r) ≠ .eof := fun h => by
  have := txtScan_spec ual (c :: r)
  rw [h] at this
  cases this

theorem hdrScan_comment {s : Bytes} (h : startsWith [47, 47] s = true) :
    hdrScan s = some (.comment, (scanComment s).1, (scanComment s).1, .header) := by
  obtain ⟨t, rfl⟩ := (startsWith_iff _ _).mp h
  rfl

theorem txtScan_comment (ual : List Nat) {s : Bytes} (h : startsWith [47, 47] s = true) :
    txtScan ual s = .tok .comment (scanComment s).1 (scanComment s).1 .text := by
  obtain ⟨t, rfl⟩ := (startsWith_iff _ _).mp h
  rfl

theorem emit_decreases (k : Kind) (v raw : Bytes) (m : Mode) (p : Pos) (t : Tok) (m' : Mode) (p' : Pos)
    (h : emit k v raw m p = .tok t m' p') (hraw : raw ≠ []) (hrest : p.rest ≠ []) :
    p'.rest.length < p.rest.length := by
  simp only [emit, Step.tok.injEq] at h
  rw [← h.2.2, advance_length]
  have h1 : 0 < raw.length := List.length_pos_iff.mpr hraw
  have h2 : 0 < p.rest.length := List.length_pos_iff.mpr hrest
  omega

/-- what one step can be: an emitted non-terminal token stamped with the current position, or
a terminal token (EOF or error) stamped with the current position; the text of an emitted token is
not empty and begins the unread input -/
def StepShape (p : Pos) (s : Step) : Prop :=
  (∃ k v raw m, s = emit k v raw m p ∧ k ≠ .eof ∧ k ≠ .error ∧ raw ≠ [] ∧ raw <+: p.rest) ∨
  (∃ t, s = .last t ∧ t.line = p.line ∧ t.col = p.col ∧ (t.kind = .eof ∨ t.kind = .error))

theorem stepHeader_shape (p : Pos) : StepShape p (stepHeader p) := by
  rw [stepHeader_scan]
  split
  · exact Or.inr ⟨_, rfl, rfl, rfl, Or.inl rfl⟩
  · rename_i hs
    obtain ⟨h1, h2, _, h4, h5⟩ := hdrScan_tok hs
    exact Or.inl ⟨_, _, _, _, rfl, h1, h2, h4, h5⟩

theorem stepText_shape (ual : List Nat) (p : Pos) : StepShape p (stepText ual p) := by
  rw [stepText_scan]
  split
  · exact Or.inr ⟨_, rfl, rfl, rfl, Or.inl rfl⟩
  · exact Or.inr ⟨_, rfl, rfl, rfl, Or.inr rfl⟩
  · rename_i hs
    obtain ⟨h1, h2, _, _, _, h6, h7⟩ := txtScan_tok hs
    exact Or.inl ⟨_, _, _, _, rfl, h1, h2, h6, h7⟩

theorem lexStep_shape (ual : List Nat) (m : Mode) (p : Pos) :
    StepShape (skipWs m p.rest.length p) (lexStep ual m p) := by
  unfold lexStep
  cases m with
  | header => exact stepHeader_shape _
  | text => exact stepText_shape ual _

theorem lexStep_decreases (ual : List Nat) (m : Mode) (p : Pos) (t : Tok) (m' : Mode) (p' : Pos)
    (h : lexStep ual m p = .tok t m' p') : p'.rest.length < p.rest.length := by
  rcases lexStep_shape ual m p with ⟨k, v, raw, m1, hs, _, _, hne, hp⟩ | ⟨t', hs, _⟩
  · rw [hs] at h
    exact Nat.lt_of_lt_of_le (emit_decreases _ _ _ _ _ _ _ _ h hne (fun e => hne (List.prefix_nil.mp (e ▸ hp))))
      (skipWs_le m p.rest.length p)
  · rw [hs] at h; cases h

/-- more fuel than unread bytes changes nothing: the fuel of `lexAll` is never the reason the
token stream stops -/
theorem lexFuel_stable (ual : List Nat) : ∀ (fuel : Nat) (m : Mode) (p : Pos) (k : Nat),
    p.rest.length < fuel → lexFuel ual (fuel + k) m p = lexFuel ual fuel m p := by
  intro fuel
  induction fuel with
  | zero => intro m p k h; omega
  | succ n ih =>
    intro m p k h
    have : n + 1 + k = (n + k) + 1 := by omega
    rw [this, lexFuel, lexFuel]
    cases hs : lexStep ual m p with
    | last t => rfl
    | tok t m' p' =>
      simp only
      have hd := lexStep_decreases ual m p t m' p' hs
      rw [ih m' p' k (by omega)]

def Tok.terminal (t : Tok) : Bool := t.kind == .eof || t.kind == .error

theorem emit_not_terminal (k : Kind) (v raw : Bytes) (m : Mode) (p : Pos) (t : Tok) (m' : Mode) (p' : Pos)
    (h : emit k v raw m p = .tok t m' p') : t.kind = k := by
  simp only [emit, Step.tok.injEq] at h
  rw [← h.1]; rfl

/-- the bytes of the current line in front of offset `pre.length` (reversed) -/
def lineRev (pre : Bytes) : Bytes := pre.reverse.takeWhile (· != 10)

/-- `p` is the lexer position reached after reading the prefix `pre` of `input` -/
def PosInv (input : Bytes) (p : Pos) : Prop :=
  ∃ pre, input = pre ++ p.rest ∧ p.line = 1 + pre.count 10 ∧ p.revLine = lineRev pre

/-- the token is stamped with the true position of some offset of `input`: line = 1 + the line
feeds in front of it, col = 1 + the runes between the start of that line and the offset -/
def TokAt (input : Bytes) (t : Tok) : Prop :=
  ∃ pre suf, input = pre ++ suf ∧ t.line = 1 + pre.count 10 ∧
    t.col = 1 + (Utf8.runes (lineRev pre).reverse).length

theorem posInv_init (input : Bytes) : PosInv input ⟨input, 1, []⟩ :=
  ⟨[], by simp, by simp, by simp [lineRev]⟩

theorem lineRev_snoc (pre : Bytes) (b : Nat) :
    lineRev (pre ++ [b]) = if b == 10 then [] else b :: lineRev pre := by
  unfold lineRev
  simp only [List.reverse_append, List.reverse_cons, List.reverse_nil, List.nil_append, List.cons_append,
    List.takeWhile]
  by_cases h : b = 10
  · subst h; simp
  · have : (b != 10) = true := by simp [h]
    simp [this, h]

theorem advanceN_inv (input : Bytes) (n : Nat) : ∀ p : Pos, PosInv input p → PosInv input (advanceN p n) := by
  induction n with
  | zero => intro p h; simpa [advanceN] using h
  | succ n ih =>
    intro p ⟨pre, h1, h2, h3⟩
    cases hp : p.rest with
    | nil => simp only [advanceN, hp]; exact ⟨pre, h1, h2, h3⟩
    | cons b r =>
      simp only [advanceN, hp]
      have hin : input = (pre ++ [b]) ++ r := by rw [h1, hp]; simp
      split
      · rename_i hb
        have hb' : b = 10 := by simpa using hb
        apply ih
        refine ⟨pre ++ [b], hin, ?_, ?_⟩
        · simp [h2, hb', List.count_append]; omega
        · simp [lineRev_snoc, hb']
      · rename_i hb
        have hb' : b ≠ 10 := by simpa using hb
        apply ih
        refine ⟨pre ++ [b], hin, ?_, ?_⟩
        · simp [h2, List.count_append, hb']
        · simp [lineRev_snoc, hb', h3]

theorem advance_inv (input : Bytes) (p : Pos) (bs : Bytes) (h : PosInv input p) : PosInv input (advance p bs) :=
  advanceN_inv input _ p h

theorem skipWs_inv (input : Bytes) (m : Mode) : ∀ (fuel : Nat) (p : Pos), PosInv input p → PosInv input (skipWs m fuel p)
  | 0 => fun _ h => h
  | fuel + 1 => fun p h => by
    rw [skipWs_step]
    split
    · exact h
    · exact skipWs_inv input m fuel _ (advance_inv _ _ _ h)

theorem tokAt_of_inv (input : Bytes) (p : Pos) (t : Tok) (h : PosInv input p)
    (hl : t.line = p.line) (hc : t.col = p.col) : TokAt input t := by
  obtain ⟨pre, h1, h2, h3⟩ := h
  exact ⟨pre, p.rest, h1, by rw [hl, h2], by rw [hc, Pos.col, h3]⟩

/-- C06: every token, error tokens included, carries the true line and column of an offset of
the input -/
theorem lexFuel_positions (ual : List Nat) (input : Bytes) : ∀ (fuel : Nat) (m : Mode) (p : Pos),
    PosInv input p → ∀ t ∈ lexFuel ual fuel m p, TokAt input t := by
  intro fuel
  induction fuel with
  | zero => intro m p _ t ht; simp [lexFuel] at ht
  | succ n ih =>
    intro m p hp t ht
    have hq := skipWs_inv input m p.rest.length p hp
    rw [lexFuel] at ht
    rcases lexStep_shape ual m p with ⟨k, v, raw, m', hs, _, _, _, _⟩ | ⟨t', hs, hl, hc, _⟩
    · rw [hs] at ht
      simp only [emit, List.mem_cons] at ht
      rcases ht with ht | ht
      · subst ht
        exact tokAt_of_inv input _ _ hq rfl rfl
      · exact ih m' _ (advance_inv _ _ _ hq) t ht
    · rw [hs] at ht
      simp only [List.mem_singleton] at ht
      subst ht
      exact tokAt_of_inv input _ _ hq hl hc

theorem lexAll_positions (ual : List Nat) (input : Bytes) : ∀ t ∈ lexAll ual input, TokAt input t :=
  lexFuel_positions ual input _ _ _ (posInv_init input)

/-- with enough fuel the stream is a run of non-terminal tokens closed by exactly one terminal
token (EOF or a lexing error) -/
theorem lexFuel_shape (ual : List Nat) : ∀ (fuel : Nat) (m : Mode) (p : Pos), p.rest.length < fuel →
    ∃ ts last, lexFuel ual fuel m p = ts ++ [last] ∧ (∀ t ∈ ts, t.kind ≠ .eof ∧ t.kind ≠ .error) ∧
      (last.kind = .eof ∨ last.kind = .error) := by
  intro fuel
  induction fuel with
  | zero => intro m p h; omega
  | succ n ih =>
    intro m p h
    rw [lexFuel]
    rcases lexStep_shape ual m p with ⟨k, v, raw, m', hs, hk1, hk2, _, _⟩ | ⟨t', hs, _, _, hterm⟩
    · have hd := lexStep_decreases ual m p _ _ _ (by rw [hs]; rfl)
      rw [hs]
      simp only [emit]
      obtain ⟨ts, t, h1, h2, h3⟩ := ih m' (advance (skipWs m p.rest.length p) raw) (by omega)
      refine ⟨mkTok k v (skipWs m p.rest.length p) :: ts, t, by rw [h1]; rfl, ?_, h3⟩
      intro x hx
      simp only [List.mem_cons] at hx
      rcases hx with hx | hx
      · subst hx; exact ⟨hk1, hk2⟩
      · exact h2 x hx
    · rw [hs]
      exact ⟨[], t', rfl, by simp, hterm⟩

theorem lexAll_terminal (ual : List Nat) (input : Bytes) :
    ∃ ts t, lexAll ual input = ts ++ [t] ∧ (t.kind = .eof ∨ t.kind = .error) ∧
      ∀ x ∈ ts, x.kind ≠ .eof ∧ x.kind ≠ .error :=
  let ⟨ts, t, h1, h2, h3⟩ := lexFuel_shape ual _ _ _ (by simp)
  ⟨ts, t, h1, h3, h2⟩

end Lex
end Secs
