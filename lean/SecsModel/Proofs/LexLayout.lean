/-
Layout theory of the lexer model, positions aside. A step depends on the lexer state only through
the unread input: it is `scanSig` of what `skipR` leaves (`lexStep_scanSig`), and the token stream
is one such step after the other (`lexFrom_unfold`). So a run of blanks in front of a token is
invisible, and a comment up to its line end contributes exactly one comment token.
-/
import SecsModel.Proofs.Lexer
namespace Secs
namespace Lex

def eraseT (t : Tok) : Tok := { t with line := 0, col := 0 }

theorem eraseT_kind (t : Tok) : (eraseT t).kind = t.kind := rfl

/-- what a step does apart from positions: the token, and the mode and unread input after it -/
def Step.sig : Step → Tok × Option (Mode × Bytes)
  | .tok t m q => (eraseT t, some (m, q.rest))
  | .last t => (eraseT t, none)

theorem emit_sig (k : Kind) (v raw : Bytes) (m : Mode) (p : Pos) :
    (emit k v raw m p).sig = (⟨k, v, 0, 0, none⟩, some (m, p.rest.drop raw.length)) := by
  simp [emit, Step.sig, mkTok, eraseT, advance_rest]

theorem last_tok_sig (k : Kind) (v : Bytes) (p : Pos) : (Step.last (mkTok k v p)).sig = (⟨k, v, 0, 0, none⟩, none) := by
  simp [Step.sig, mkTok, eraseT]

theorem last_err_sig (e : LexErr) (p : Pos) : (Step.last (mkErr e p)).sig = (⟨.error, [], 0, 0, some e⟩, none) := by
  simp [Step.sig, mkErr, eraseT]

/-- what is left after skipping what mode `m` ignores -/
def skipR (m : Mode) (s : Bytes) : Bytes := (skipWs m s.length ⟨s, 0, []⟩).rest

/-- the unread input after skipping depends on the unread input only, and on no fuel that covers it -/
theorem skipWs_rest_skipR (m : Mode) : ∀ (f : Nat) (p : Pos), p.rest.length ≤ f → (skipWs m f p).rest = skipR m p.rest := by
  have two : ∀ (f f' : Nat) (p q : Pos), p.rest = q.rest → p.rest.length ≤ f → p.rest.length ≤ f' →
      (skipWs m f p).rest = (skipWs m f' q).rest := by
    intro f
    induction f with
    | zero =>
      intro f' p q e h _
      have hn : q.rest = [] := e ▸ List.eq_nil_of_length_eq_zero (Nat.le_zero.mp h)
      cases f' with
      | zero => exact e
      | succ k => rw [skipWs_step, hn]; exact e
    | succ n ih =>
      intro f' p q e h h'
      cases f' with
      | zero =>
        have hn : p.rest = [] := List.eq_nil_of_length_eq_zero (Nat.le_zero.mp h')
        rw [skipWs_step, hn]; exact e
      | succ k =>
        -- both sides take the same branch: `skipLen` looks at the unread input only
        rw [skipWs_step, skipWs_step, ← e]
        split
        · exact e
        · have hl := skipLen_le m p.rest
          refine ih k _ _ (by rw [advance_rest, advance_rest, e]) ?_ ?_ <;>
            rw [advance_length, List.length_take] <;> omega
  exact fun f p h => two f _ p ⟨p.rest, 0, []⟩ rfl h (Nat.le_refl _)

theorem skipR_nil (m : Mode) : skipR m [] = [] := rfl

theorem skipR_step (m : Mode) (x : Bytes) :
    skipR m x = if skipLen m x = 0 then x else skipR m (x.drop (skipLen m x)) := by
  cases x with
  | nil => rfl
  | cons c r =>
    have hl := skipLen_le m (c :: r)
    conv => lhs; unfold skipR
    rw [List.length_cons, skipWs_step]
    split
    · rfl
    · rename_i h0
      dsimp only at h0
      rw [skipWs_rest_skipR, advance_rest, List.length_take, Nat.min_eq_left hl]
      rw [advance_length, List.length_take]
      simp only [List.length_cons] at hl ⊢
      omega

theorem skipR_stop {m : Mode} {x : Bytes} (h : skipLen m x = 0) : skipR m x = x := by
  rw [skipR_step, if_pos h]

theorem skipR_blank (m : Mode) {w : Nat} (hw : isBlank w = true) (r : Bytes) : skipR m (w :: r) = skipR m r := by
  rw [skipR_step, skipLen_blank m hw]; rfl

-- patterns on the analysed argument only, the rest by `fun`: a pattern over all arguments builds a matcher over each
theorem skipR_blank_run (m : Mode) (y : Bytes) : ∀ ws : Bytes, (∀ b ∈ ws, isBlank b = true) → skipR m (ws ++ y) = skipR m y
  | [] => fun _ => rfl
  | w :: ws => fun h => by
    rw [List.cons_append, skipR_blank m (h w (by simp)), skipR_blank_run m y ws (fun b hb => h b (by simp [hb]))]

/-- induction along the rounds of skipping -/
theorem skipR_induct (m : Mode) {P : Bytes → Prop}
    (h : ∀ x, (skipLen m x ≠ 0 → P (x.drop (skipLen m x))) → P x) (x : Bytes) : P x :=
  h x fun _ => skipR_induct m h _
termination_by x.length
decreasing_by
  have := skipLen_le m x
  simp only [List.length_drop]; omega

theorem skipR_suffix (m : Mode) (x : Bytes) : skipR m x <:+ x := by
  induction x using skipR_induct m with | h x ih => ?_
  rw [skipR_step]
  split
  · exact List.suffix_refl _
  · exact (ih ‹_›).trans (List.drop_suffix _ _)

/-- where skipping stops there is no blank, and in the header state no white-space rune -/
theorem skipR_head (m : Mode) (x : Bytes) (c : Nat) (r : Bytes) (h : skipR m x = c :: r) :
    isBlank c = false ∧ (m = .header → Utf8.isSpace (Utf8.decodeRune (c :: r)).1 = false) := by
  induction x using skipR_induct m with | h x ih => ?_
  rw [skipR_step] at h
  split at h
  · rename_i h0
    subst h
    exact skipLen_eq_zero h0
  · exact ih ‹_› h

/-- skipping in front of a blank: it stops before the blank, or goes on behind it -/
theorem skipR_cut (m : Mode) {w : Nat} (hw : isBlank w = true) (b : Bytes) (p : Bytes) :
    skipR m (p ++ w :: b) = if skipR m p = [] then skipR m b else skipR m p ++ w :: b := by
  induction p using skipR_induct m with | h p ih => ?_
  cases p with
  | nil => rw [List.nil_append, skipR_blank m hw, skipR_nil, if_pos rfl]
  | cons c r =>
    rw [skipR_step m (c :: r ++ w :: b), skipR_step m (c :: r), skipLen_cut m c r hw b]
    split
    · rfl
    · rw [List.drop_append_of_le_length (skipLen_le m (c :: r))]
      exact ih ‹_›

def eofTok : Tok := ⟨.eof, [69, 79, 70], 0, 0, none⟩

def scanSig (ual : List Nat) (m : Mode) (y : Bytes) : Tok × Option (Mode × Bytes) :=
  match m with
  | .header =>
    match hdrScan y with
    | none => (eofTok, none)
    | some (k, v, raw, m') => (⟨k, v, 0, 0, none⟩, some (m', y.drop raw.length))
  | .text =>
    match txtScan ual y with
    | .eof => (eofTok, none)
    | .err e => (⟨.error, [], 0, 0, some e⟩, none)
    | .tok k v raw m' => (⟨k, v, 0, 0, none⟩, some (m', y.drop raw.length))

theorem lexStep_scanSig (ual : List Nat) (m : Mode) (p : Pos) :
    (lexStep ual m p).sig = scanSig ual m (skipR m p.rest) := by
  unfold lexStep scanSig
  have hr := skipWs_rest_skipR m p.rest.length p (Nat.le_refl _)
  cases m with
  | header =>
    simp only
    rw [stepHeader_scan, hr]
    cases hdrScan (skipR .header p.rest) with
    | none => exact last_tok_sig _ _ _
    | some q =>
      obtain ⟨k, v, raw, m'⟩ := q
      simp only
      rw [emit_sig, hr]
  | text =>
    simp only
    rw [stepText_scan, hr]
    cases txtScan ual (skipR .text p.rest) with
    | eof => exact last_tok_sig _ _ _
    | err e => exact last_err_sig _ _
    | tok k v raw m' =>
      simp only
      rw [emit_sig, hr]

theorem lexStep_sig (ual : List Nat) (m : Mode) (p p' : Pos) (h : p.rest = p'.rest) :
    (lexStep ual m p).sig = (lexStep ual m p').sig := by
  rw [lexStep_scanSig, lexStep_scanSig, h]

/-- the token stream depends on the lexer state only through the unread input, positions
aside -/
theorem lexFuel_erase (ual : List Nat) : ∀ (fuel : Nat) (m : Mode) (p p' : Pos), p.rest = p'.rest →
    (lexFuel ual fuel m p).map eraseT = (lexFuel ual fuel m p').map eraseT := by
  intro fuel
  induction fuel with
  | zero => intro m p p' _; rfl
  | succ n ih =>
    intro m p p' h
    have hs := lexStep_sig ual m p p' h
    rw [lexFuel, lexFuel]
    cases h1 : lexStep ual m p with
    | last t =>
      cases h2 : lexStep ual m p' with
      | last t' =>
        rw [h1, h2] at hs
        simp only [Step.sig, Prod.mk.injEq] at hs
        simp [hs.1]
      | tok t' m' q' => rw [h1, h2] at hs; simp [Step.sig] at hs
    | tok t m1 q =>
      cases h2 : lexStep ual m p' with
      | last t' => rw [h1, h2] at hs; simp [Step.sig] at hs
      | tok t' m' q' =>
        rw [h1, h2] at hs
        simp only [Step.sig, Prod.mk.injEq, Option.some.injEq] at hs
        obtain ⟨ht, hm, hq⟩ := hs
        subst hm
        simp [ht, ih m1 q q' hq]

/-- the token stream from the start of `rest` in mode `m` -/
def lexFrom (ual : List Nat) (m : Mode) (rest : Bytes) : List Tok :=
  lexFuel ual (rest.length + 1) m ⟨rest, 1, []⟩

theorem lexFuel_eq_lexFrom (ual : List Nat) (m : Mode) (p : Pos) (fuel : Nat) (h : p.rest.length < fuel) :
    (lexFuel ual fuel m p).map eraseT = (lexFrom ual m p.rest).map eraseT := by
  have h1 : lexFuel ual fuel m p = lexFuel ual (p.rest.length + 1) m p := by
    have := lexFuel_stable ual (p.rest.length + 1) m p (fuel - (p.rest.length + 1)) (by omega)
    rw [← this]; congr 1; omega
  rw [h1]
  exact lexFuel_erase ual _ m p ⟨p.rest, 1, []⟩ rfl

theorem lexFrom_unfold (ual : List Nat) (m : Mode) (x : Bytes) :
    (lexFrom ual m x).map eraseT =
      match scanSig ual m (skipR m x) with
      | (t, none) => [t]
      | (t, some (m', r)) => t :: (lexFrom ual m' r).map eraseT := by
  have hs := lexStep_scanSig ual m ⟨x, 1, []⟩
  simp only at hs
  rw [← hs, lexFrom, lexFuel]
  cases hstep : lexStep ual m ⟨x, 1, []⟩ with
  | tok t m' q =>
    have hd := lexStep_decreases ual m _ t m' q hstep
    simp only [List.map_cons, lexFuel_eq_lexFrom ual m' q x.length (by simpa using hd)]
    rfl
  | last t => rfl

theorem scanSig_nil (ual : List Nat) (m : Mode) : scanSig ual m [] = (eofTok, none) := by
  cases m <;> rfl

theorem scanSig_cons_none (ual : List Nat) (m : Mode) (c : Nat) (r : Bytes) (t : Tok)
    (h : scanSig ual m (c :: r) = (t, none)) : t.kind = .error := by
  cases m with
  | header =>
    cases hh : hdrScan (c :: r) with
    | none => exact absurd hh (hdrScan_cons_ne_none c r)
    | some q => simp [scanSig, hh] at h
  | text =>
    cases ht : txtScan ual (c :: r) with
    | eof => exact absurd ht (txtScan_cons_ne_eof ual c r)
    | err e => simp only [scanSig, ht, Prod.mk.injEq] at h; rw [← h.1]
    | tok k v raw m' => simp [scanSig, ht] at h

/-- a run of blanks (space, tab, CR, LF, in any mix and number) where the lexer looks for the
next token is invisible in the token stream, positions aside -/
theorem blank_run_invisible (ual : List Nat) (m : Mode) (ws y : Bytes) (hws : ∀ b ∈ ws, isBlank b = true) :
    (lexFrom ual m (ws ++ y)).map eraseT = (lexFrom ual m y).map eraseT := by
  rw [lexFrom_unfold, lexFrom_unfold ual m y, skipR_blank_run m y ws hws]

/-- the same for two different runs: replacing one blank run by another changes nothing -/
theorem blank_runs_equivalent (ual : List Nat) (m : Mode) (ws ws' y : Bytes)
    (h : ∀ b ∈ ws, isBlank b = true) (h' : ∀ b ∈ ws', isBlank b = true) :
    (lexFrom ual m (ws ++ y)).map eraseT = (lexFrom ual m (ws' ++ y)).map eraseT := by
  rw [blank_run_invisible ual m ws y h, blank_run_invisible ual m ws' y h']

def isTrimB (b : Nat) : Bool := b == 32 || b == 9 || b == 13

/-- a comment up to its line end, wherever the lexer looks for the next token and whatever
bytes it contains, contributes exactly one comment token; the rest of the stream is the stream
of what follows the line, positions aside -/
theorem comment_one_token (ual : List Nat) (m : Mode) (c y : Bytes) (hc : ∀ x ∈ c, x ≠ 10) :
    ∃ C : Bytes, (lexFrom ual m (47 :: 47 :: c ++ 10 :: y)).map eraseT =
      ⟨.comment, C, 0, 0, none⟩ :: (lexFrom ual m y).map eraseT := by
  have hs : skipR m (47 :: 47 :: c ++ 10 :: y) = 47 :: 47 :: c ++ 10 :: y := by
    exact skipR_stop (by cases m <;> rfl)
  have hc' : ∀ x ∈ 47 :: 47 :: c, x ≠ 10 := by simpa using hc
  have hsc := scanComment_at (47 :: 47 :: c) y hc'
  obtain ⟨t, ht, htb⟩ := trimRight_split (fun b => b == 32 || b == 9 || b == 13) (47 :: 47 :: c)
  generalize trimRight (fun b => b == 32 || b == 9 || b == 13) (47 :: 47 :: c) = C at hsc ht
  have hdrop : (47 :: 47 :: c ++ 10 :: y).drop C.length = (t ++ [10]) ++ y := by
    rw [show 47 :: 47 :: c ++ 10 :: y = C ++ ((t ++ [10]) ++ y) by simpa using congrArg (· ++ 10 :: y) ht, List.drop_left]
  have hb : ∀ b ∈ t ++ [10], isBlank b = true := by
    intro b hb
    rcases List.mem_append.mp hb with h | h
    · have := htb b h
      simp only [Bool.or_eq_true, beq_iff_eq] at this
      rcases this with (h | h) | h <;> simp [isBlank, h]
    · simp at h; simp [h, isBlank]
  refine ⟨C, ?_⟩
  have hst : startsWith [47, 47] (47 :: 47 :: c ++ 10 :: y) = true := rfl
  rw [lexFrom_unfold, hs]
  cases m with
  | header => simp only [scanSig, hdrScan_comment hst, hsc, hdrop, blank_run_invisible ual .header _ y hb]
  | text => simp only [scanSig, txtScan_comment ual hst, hsc, hdrop, blank_run_invisible ual .text _ y hb]

/-- the parser's view (comment tokens dropped): the comment line is invisible -/
theorem comment_invisible (ual : List Nat) (m : Mode) (c y : Bytes) (hc : ∀ x ∈ c, x ≠ 10) :
    ((lexFrom ual m (47 :: 47 :: c ++ 10 :: y)).map eraseT).filter (fun t => t.kind != .comment) =
      ((lexFrom ual m y).map eraseT).filter (fun t => t.kind != .comment) := by
  obtain ⟨C, h⟩ := comment_one_token ual m c y hc
  rw [h, List.filter_cons]
  rfl

end Lex
end Secs
