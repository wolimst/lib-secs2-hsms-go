/-
The factories, characterised once: a factory returns a node iff its arguments convert and the node
is well formed (`mkInt_eq_some` … `mkList_eq_some`). Everything else that is proved of a factory
(what it stores, that its result is well formed, that it rebuilds a node from the node's own slots,
when it refuses) follows from these equivalences and from the single equation `mkSlots_cons` of the
generic array factory.
-/
import SecsModel.Model.Ctor
import SecsModel.Model.WF
import SecsModel.Model.Msg
namespace Secs

theorem valid_not_ellipsis (n : Name) (h : isValidVarName n = true) : isEllipsis n = false := by
  cases n with
  | nil => rfl
  | cons b r =>
    simp only [isValidVarName, Bool.and_eq_true] at h
    unfold isEllipsis
    split
    · rename_i heq; injection heq with h1 _; subst h1; exact absurd h.1 (by decide)
    · rfl

theorem valid_not_0b (n : Name) (h : isValidVarName n = true) : hasPrefix [48, 98] n = false := by
  cases n with
  | nil => rfl
  | cons b r =>
    simp only [isValidVarName, Bool.and_eq_true] at h
    have hb : b ≠ 48 := by
      intro hb; subst hb
      have := h.1
      simp [isIdentStartB, isAlphaB, isUpperB, isLowerB] at this
    cases r with
    | nil => simp [hasPrefix]
    | cons c r' => simp [hasPrefix, hb]

theorem slotsOk_iff {α} (p : α → Bool) (xs : List (Slot α)) : slotsOk p xs = true ↔
    (∀ a, Slot.val a ∈ xs → p a = true) ∧ (∀ n, Slot.var n ∈ xs → isValidVarName n = true) ∧
      nodupNames (slotVars xs) = true := by
  simp only [slotsOk, Bool.and_eq_true, List.all_eq_true]
  refine ⟨fun h => ⟨fun a ha => h.1 _ ha, fun n hn => h.1 _ hn, h.2⟩, fun h => ⟨fun s hs => ?_, h.2.2⟩⟩
  cases s with
  | val a => exact h.1 a hs
  | var n => exact h.2.1 n hs

theorem slotsOk_mem {α} (p : α → Bool) (xs : List (Slot α)) (h : slotsOk p xs = true) :
    (∀ a, Slot.val a ∈ xs → p a = true) ∧ (∀ n, Slot.var n ∈ xs → isValidVarName n = true) :=
  ⟨((slotsOk_iff p xs).mp h).1, ((slotsOk_iff p xs).mp h).2.1⟩

/-- what the array factory makes of one argument: a converted value, a variable name (a string the
conversion does not take), or a refusal -/
def toSlot {α} (conv : GoVal → Option α) (g : GoVal) : Option (Slot α) :=
  match conv g with
  | some a => some (.val a)
  | none => match g with
    | .str s => some (.var s)
    | _ => none

theorem mkSlots_cons {α} (conv : GoVal → Option α) (g : GoVal) (A : List GoVal) :
    mkSlots conv (g :: A) = (toSlot conv g).bind fun s => (mkSlots conv A).map (s :: ·) := by
  -- by the branches of `mkSlots` (a string or not, converted or not), not by the seven kinds of `g`
  generalize hl : g :: A = l
  fun_cases mkSlots conv l <;> cases hl <;> simp only [toSlot, *, Option.bind_some, Option.bind_none]

theorem mkSlots_cons_eq_some {α} {conv : GoVal → Option α} {g : GoVal} {A : List GoVal} {ys : List (Slot α)} :
    mkSlots conv (g :: A) = some ys ↔ ∃ s r, toSlot conv g = some s ∧ mkSlots conv A = some r ∧ s :: r = ys := by
  simp only [mkSlots_cons, Option.bind_eq_some_iff, Option.map_eq_some_iff, exists_and_left]

theorem mkSlots_refused {α} (conv : GoVal → Option α) {g : GoVal} (pre post : List GoVal) (h : toSlot conv g = none) :
    mkSlots conv (pre ++ g :: post) = none := by
  induction pre with
  | nil => rw [List.nil_append, mkSlots_cons, h]; rfl
  | cons x r ih => rw [List.cons_append, mkSlots_cons, ih]; cases toSlot conv x <;> rfl

-- patterns on the analysed argument only, the rest by `fun`: a pattern over all arguments builds a matcher over each
theorem mkSlots_length {α} (conv : GoVal → Option α) : ∀ (A : List GoVal) (ys : List (Slot α)),
    mkSlots conv A = some ys → ys.length = A.length
  | [] => fun ys h => by cases h; rfl
  | g :: A => fun ys h => by
    obtain ⟨s, r, _, hr, rfl⟩ := mkSlots_cons_eq_some.mp h
    rw [List.length_cons, List.length_cons, mkSlots_length conv A r hr]

theorem nodupNames_iff : ∀ l : List Name, nodupNames l = true ↔ l.Nodup
  | [] => by simp [nodupNames]
  | n :: r => by simp [nodupNames, nodupNames_iff r]

theorem nodupNames_filter (p : Name → Bool) (l : List Name) (h : nodupNames l = true) : nodupNames (l.filter p) = true :=
  (nodupNames_iff _).mpr (((nodupNames_iff l).mp h).filter p)

theorem wf_list_iff {xs : Slots} : (Tmpl.list xs).wf = true ↔
    xs.len ≤ maxByteSize ∧ xs.wfAll = true ∧ listOwnOk xs 0 false = true ∧ nodupNames xs.vars = true := by
  simp only [Tmpl.wf, Bool.and_eq_true, decide_eq_true_eq, and_assoc]

theorem slots_vars_item (t : Tmpl) (r : Slots) (h : t ≠ .empty) : (Slots.item t r).vars = t.vars ++ r.vars := by
  cases t <;> first | rfl | exact absurd rfl h

theorem mem_vars_item {t : Tmpl} {r : Slots} {v : Name} (h : v ∈ t.vars ∨ v ∈ r.vars) : v ∈ (Slots.item t r).vars := by
  by_cases ht : t = .empty
  · subst ht
    rcases h with h | h
    · cases h
    · exact List.mem_cons_of_mem _ h
  · rw [slots_vars_item t r ht, List.mem_append]; exact h

theorem listOwnOk_closed : (xs : Slots) → (hc : xs.closedAll = true) → (pos : Nat) → (e : Bool) →
    listOwnOk xs pos e = true
  | .nil => fun _ _ _ => rfl
  | .var n r => fun hc _ _ => by simp [Slots.closedAll] at hc
  | .item t r => fun hc pos e => by
    simp only [Slots.closedAll, Bool.and_eq_true] at hc
    simp only [listOwnOk]
    exact listOwnOk_closed r hc.2 (pos + 1) e

mutual
/-- a placeholder item inside a list is listed under the empty name, so a list without variables holds none -/
theorem closed_iff_no_vars : ∀ t : Tmpl, t.closed = true ↔ t.vars = [] ∧ t ≠ .empty
  | .list xs => by
    simp only [Tmpl.closed, Tmpl.vars, closedAll_iff_no_vars xs, ne_eq, reduceCtorEq, not_false_eq_true, and_true]
  | .ascii _ => by simp [Tmpl.closed, Tmpl.vars]
  | .asciiVar _ _ _ => by simp [Tmpl.closed, Tmpl.vars]
  | .empty => by simp [Tmpl.closed]
  | .binary _ | .boolean _ | .int _ _ | .uint _ _ | .float _ _ => by
    simp only [Tmpl.closed, Tmpl.vars, List.isEmpty_iff, ne_eq, reduceCtorEq, not_false_eq_true, and_true]

theorem closedAll_iff_no_vars : ∀ xs : Slots, xs.closedAll = true ↔ xs.vars = []
  | .nil => by simp [Slots.closedAll, Slots.vars]
  | .var _ _ => by simp [Slots.closedAll, Slots.vars]
  | .item t r => by
    by_cases ht : t = .empty
    · subst ht; simp [Slots.closedAll, Slots.vars, Tmpl.closed]
    · rw [slots_vars_item t r ht, List.append_eq_nil_iff, ← closedAll_iff_no_vars r]
      simp only [Slots.closedAll, Bool.and_eq_true, closed_iff_no_vars t, ht, ne_eq, not_false_eq_true, and_true]
end

theorem vars_closed (t : Tmpl) (hc : t.closed = true) : t.vars = [] := ((closed_iff_no_vars t).mp hc).1

theorem varss_closed (xs : Slots) (hc : xs.closedAll = true) : xs.vars = [] := (closedAll_iff_no_vars xs).mp hc

theorem mem_slotVars {α} (v : Name) : ∀ xs : List (Slot α), v ∈ slotVars xs ↔ Slot.var v ∈ xs
  | [] => by simp [slotVars]
  | .val a :: r => by simp [slotVars, mem_slotVars v r]
  | .var n :: r => by
    simp only [slotVars, List.mem_cons, mem_slotVars v r, Slot.var.injEq]

theorem slotVars_map {α β} (f : Slot α → Slot β) (hf : ∀ n, f (.var n) = .var n)
    (hv : ∀ a, ∃ b, f (.val a) = .val b) (l : List (Slot α)) : slotVars (l.map f) = slotVars l := by
  induction l with
  | nil => rfl
  | cons x r ih =>
    cases x with
    | val a => obtain ⟨b, hb⟩ := hv a; simp [slotVars, hb, ih]
    | var n => simp [slotVars, hf, ih]

theorem slotsOk_map {α β} {p : α → Bool} {q : β → Bool} (f : Slot α → Slot β) (hf : ∀ n, f (.var n) = .var n)
    (hv : ∀ a, ∃ b, f (.val a) = .val b ∧ (p a = true → q b = true)) (xs : List (Slot α))
    (h : slotsOk p xs = true) : slotsOk q (xs.map f) = true := by
  simp only [slotsOk, Bool.and_eq_true, List.all_eq_true] at h ⊢
  refine ⟨?_, (congrArg nodupNames (slotVars_map f hf (fun a => (hv a).imp fun _ h => h.1) xs)).trans h.2⟩
  intro s hs
  obtain ⟨s0, hs0, rfl⟩ := List.mem_map.mp hs
  have h0 := h.1 s0 hs0
  cases s0 with
  | val a => obtain ⟨b, hb, hq⟩ := hv a; rw [hb]; exact hq h0
  | var n => rw [hf]; exact h0

theorem validWidthInt_iff {w : Nat} : validWidthInt w = true ↔ w = 1 ∨ w = 2 ∨ w = 4 ∨ w = 8 := by
  simp only [validWidthInt, Bool.or_eq_true, beq_iff_eq, or_assoc]

theorem validWidthFloat_iff {w : Nat} : validWidthFloat w = true ↔ w = 4 ∨ w = 8 := by
  simp only [validWidthFloat, Bool.or_eq_true, beq_iff_eq]

theorem intWidth_of_valid (w : Nat) (h : validWidthInt w = true) :
    optWidth (intFmt? w) = w ∧ optWidth (uintFmt? w) = w := by
  rcases validWidthInt_iff.mp h with rfl | rfl | rfl | rfl <;> exact ⟨rfl, rfl⟩

theorem floatWidth_of_valid (w : Nat) (h : validWidthFloat w = true) : optWidth (floatFmt? w) = w := by
  rcases validWidthFloat_iff.mp h with rfl | rfl <;> rfl

theorem mkInt_eq_some {w : Nat} {args : List GoVal} {t : Tmpl} :
    mkInt w args = some t ↔ ∃ xs, mkSlots convInt args = some xs ∧ (Tmpl.int w xs).wf = true ∧ .int w xs = t := by
  unfold mkInt
  cases hs : mkSlots convInt args with
  | none => simp
  | some xs =>
    have hl := mkSlots_length _ _ _ hs
    cases hv : validWidthInt w with
    | false => simp [Tmpl.wf, hv]
    | true =>
      simp only [(intWidth_of_valid w hv).1, Tmpl.wf, hv, hl, Option.some.injEq, exists_eq_left', Bool.true_and,
        Bool.and_eq_true, decide_eq_true_eq]
      simp only [Option.ite_none_left_eq_some, Option.ite_none_right_eq_some, Option.some.injEq, Nat.not_lt, gt_iff_lt, and_assoc]

theorem mkUint_eq_some {w : Nat} {args : List GoVal} {t : Tmpl} :
    mkUint w args = some t ↔ ∃ xs, mkSlots convUint args = some xs ∧ (Tmpl.uint w xs).wf = true ∧ .uint w xs = t := by
  unfold mkUint
  cases hs : mkSlots convUint args with
  | none => simp
  | some xs =>
    have hl := mkSlots_length _ _ _ hs
    cases hv : validWidthInt w with
    | false => simp [Tmpl.wf, hv]
    | true =>
      simp only [(intWidth_of_valid w hv).2, Tmpl.wf, hv, hl, Option.some.injEq, exists_eq_left', Bool.true_and,
        Bool.and_eq_true, decide_eq_true_eq]
      simp only [Option.ite_none_left_eq_some, Option.ite_none_right_eq_some, Option.some.injEq, Nat.not_lt, gt_iff_lt, and_assoc]

theorem mkBoolean_eq_some {args : List GoVal} {t : Tmpl} :
    mkBoolean args = some t ↔ ∃ xs, mkSlots convBool args = some xs ∧ (Tmpl.boolean xs).wf = true ∧ .boolean xs = t := by
  unfold mkBoolean
  cases hs : mkSlots convBool args with
  | none => simp
  | some xs =>
    simp only [Tmpl.wf, mkSlots_length _ _ _ hs, Option.some.injEq, exists_eq_left', Bool.and_eq_true, decide_eq_true_eq,
      Option.ite_none_left_eq_some, Option.ite_none_right_eq_some, Nat.not_lt, gt_iff_lt, and_assoc]

theorem mkAscii_eq_some {s : Bytes} {t : Tmpl} : mkAscii s = some t ↔ (Tmpl.ascii s).wf = true ∧ .ascii s = t := by
  simp only [mkAscii, Tmpl.wf, Bool.and_eq_true, decide_eq_true_eq,
    Option.ite_none_left_eq_some, Option.ite_none_right_eq_some, Option.some.injEq, Nat.not_lt, gt_iff_lt, and_assoc]

theorem mkAsciiVar_eq_some {n : Name} {mn mx : Int} {t : Tmpl} :
    mkAsciiVar n mn mx = some t ↔ (Tmpl.asciiVar n mn mx).wf = true ∧ .asciiVar n mn mx = t := by
  simp only [mkAsciiVar, Tmpl.wf, Bool.and_eq_true, decide_eq_true_eq, Bool.or_eq_true, beq_iff_eq, bne_iff_ne,
    Option.ite_none_left_eq_some, Option.some.injEq, Bool.not_eq_true', Bool.not_eq_false, not_or, not_and, Int.not_lt, and_assoc]
  constructor
  · rintro ⟨h1, h2, h3, h4, rfl⟩
    exact ⟨h1, h2, h3, by omega, rfl⟩
  · rintro ⟨h1, h2, h3, h4, rfl⟩
    exact ⟨h1, h2, h3, by omega, rfl⟩

theorem mkListSlots_length : ∀ (a : List GoVal) (xs : Slots), mkListSlots a = some xs → xs.len = a.length
  | [] => fun xs h => by cases h; rfl
  | g :: r => fun xs h => by
    cases g <;> simp only [mkListSlots, Option.map_eq_some_iff, reduceCtorEq] at h
    all_goals
      obtain ⟨ys, hr, rfl⟩ := h
      simp [Slots.len, mkListSlots_length r ys hr]

theorem mkList_eq_some {args : List GoVal} {t : Tmpl} :
    mkList args = some t ↔ ∃ xs, mkListSlots args = some xs ∧ xs.len ≤ maxByteSize ∧ listOwnOk xs 0 false = true ∧
      nodupNames xs.vars = true ∧ .list xs = t := by
  unfold mkList
  cases hs : mkListSlots args with
  | none => simp
  | some xs =>
    simp only [mkListSlots_length _ _ hs, Option.some.injEq, exists_eq_left', Bool.and_eq_true,
      Option.ite_none_left_eq_some, Option.ite_none_right_eq_some, Nat.not_lt, gt_iff_lt, and_assoc]

/-- the slots the binary factory converts into: it goes through `Option Int` (`none` = a refused
string) before it stores bytes -/
def liftB : Slot Nat → Slot (Option Int)
  | .val v => .val (some (v : Int))
  | .var n => .var n

theorem mkBinary_eq_some {args : List GoVal} {t : Tmpl} :
    mkBinary args = some t ↔
      ∃ zs, mkSlots convBinary args = some (zs.map liftB) ∧ (Tmpl.binary zs).wf = true ∧ .binary zs = t := by
  unfold mkBinary
  cases hs : mkSlots convBinary args with
  | none => simp
  | some ys =>
    have hl := mkSlots_length _ _ _ hs
    simp only [Tmpl.wf, Option.some.injEq, Bool.and_eq_true, decide_eq_true_eq,
      Option.ite_none_left_eq_some, Option.ite_none_right_eq_some, Nat.not_lt, gt_iff_lt, Bool.not_eq_true]
    constructor
    · rintro ⟨hlen, href, hok, rfl⟩
      refine ⟨_, ?_, ⟨by rw [List.length_map, List.length_map, hl]; exact hlen, ?_⟩, rfl⟩
      · -- lifting the stored bytes gives the converted slots back
        rw [List.map_map, List.map_map]
        refine (List.map_congr_left fun s hs => ?_).trans (List.map_id ys) |>.symm
        cases s with
        | var n => rfl
        | val o =>
          cases o with
          | none => exact absurd (List.any_eq_false.mp href _ hs) (by simp [slotRefused])
          | some v =>
            have hv : (decide (0 ≤ v) && decide (v < 256)) = true := by
              simp only [slotsOk, Bool.and_eq_true, List.all_eq_true] at hok
              exact hok.1 _ (List.mem_map.mpr ⟨_, hs, rfl⟩)
            simp only [Bool.and_eq_true, decide_eq_true_eq] at hv
            simp only [Function.comp, slotUnwrap, liftB, id, Int.toNat_of_nonneg hv.1]
      · refine slotsOk_map _ (fun _ => rfl) (fun v => ⟨v.toNat, rfl, fun hv => ?_⟩) _ hok
        simp only [Bool.and_eq_true, decide_eq_true_eq] at hv ⊢
        omega
    · rintro ⟨zs, rfl, ⟨hlen, hok⟩, rfl⟩
      have hun : (zs.map liftB).map (slotUnwrap 0) = zs.map fun s => (slotUnwrap 0 (liftB s) : Slot Int) := List.map_map
      refine ⟨by rw [← hl, List.length_map]; exact hlen, ?_, ?_, ?_⟩
      · simp only [List.any_map, List.any_eq_false]
        intro s _
        cases s <;> simp [liftB, slotRefused]
      · rw [hun]
        refine slotsOk_map (fun s => slotUnwrap 0 (liftB s)) (fun _ => rfl) (fun v => ⟨(v : Int), rfl, fun hv => ?_⟩) _ hok
        simp only [Bool.and_eq_true, decide_eq_true_eq] at hv ⊢
        omega
      · rw [hun, List.map_map]
        refine congrArg _ ((List.map_congr_left fun s _ => ?_).trans (List.map_id zs))
        cases s <;> simp [liftB, slotUnwrap]

theorem mkFloat_eq_some {w : Nat} {args : List GoVal} {t : Tmpl} :
    mkFloat w args = some t ↔
      ∃ xs, mkSlots (fun g => (convFloat64 g).bind (fun b => some (floatStore w b))) args = some xs ∧
        validWidthFloat w = true ∧ xs.length * w ≤ maxByteSize ∧ xs.any slotRefused = false ∧
        slotsOk (fun _ => true) (xs.map (slotUnwrap 0)) = true ∧ .float w (xs.map (slotUnwrap 0)) = t := by
  unfold mkFloat
  cases hs : mkSlots (fun g => (convFloat64 g).bind (fun b => some (floatStore w b))) args with
  | none => simp
  | some xs =>
    have hl := mkSlots_length _ _ _ hs
    cases hv : validWidthFloat w with
    | false => simp
    | true =>
      simp only [floatWidth_of_valid w hv, hl, Option.some.injEq, exists_eq_left', Bool.not_true, Bool.false_eq_true,
        if_false, true_and, Option.ite_none_left_eq_some, Option.ite_none_right_eq_some, Nat.not_lt, gt_iff_lt,
        Bool.not_eq_true]

/-- the items directly below a list -/
def Slots.items : Slots → List Tmpl
  | .nil => []
  | .item t r => t :: r.items
  | .var _ r => r.items

theorem mkListSlots_items : ∀ (a : List GoVal) (xs : Slots), mkListSlots a = some xs → ∀ u, u ∈ xs.items ↔ GoVal.item u ∈ a
  | [] => fun xs h u => by cases h; simp [Slots.items]
  | g :: r => fun xs h u => by
    cases g <;> simp only [mkListSlots, Option.map_eq_some_iff, reduceCtorEq] at h
    all_goals
      obtain ⟨ys, hr, rfl⟩ := h
      simp [Slots.items, mkListSlots_items r ys hr u]

namespace Sml
/-- the argument a slot hands to the factory when it is rebuilt from its own content -/
def argOf {α} (canon : α → GoVal) : Slot α → GoVal
  | .val a => canon a
  | .var n => .str n
end Sml

theorem rebuild_slots {α} (conv : GoVal → Option α) (canon : α → GoVal) (xs : List (Slot α))
    (hval : ∀ a, Slot.val a ∈ xs → conv (canon a) = some a)
    (hname : ∀ n, Slot.var n ∈ xs → conv (.str n) = none) :
    mkSlots conv (xs.map (Sml.argOf canon)) = some xs := by
  induction xs with
  | nil => rfl
  | cons x r ih =>
    rw [List.map_cons, mkSlots_cons, ih (fun a ha => hval a (List.mem_cons_of_mem _ ha))
      (fun n hn => hname n (List.mem_cons_of_mem _ hn))]
    cases x with
    | val a => simp only [Sml.argOf, toSlot, hval a (List.mem_cons_self ..)]; rfl
    | var n => simp only [Sml.argOf, toSlot, hname n (List.mem_cons_self ..)]; rfl

namespace Sml

theorem rebuild_int (w : Nat) (xs : List (Slot Int)) (hw : (Tmpl.int w xs).wf = true) :
    mkInt w (xs.map (argOf (.sint 64))) = some (.int w xs) :=
  mkInt_eq_some.mpr ⟨xs, rebuild_slots convInt (.sint 64) xs (fun _ _ => rfl) (fun _ _ => rfl), hw, rfl⟩

theorem rebuild_uint (w : Nat) (xs : List (Slot Nat)) (hw : (Tmpl.uint w xs).wf = true) :
    mkUint w (xs.map (argOf (.uint 64))) = some (.uint w xs) :=
  mkUint_eq_some.mpr ⟨xs, rebuild_slots convUint (.uint 64) xs (fun _ _ => rfl) (fun _ _ => rfl), hw, rfl⟩

theorem rebuild_bool (xs : List (Slot Bool)) (hw : (Tmpl.boolean xs).wf = true) :
    mkBoolean (xs.map (argOf .bool)) = some (.boolean xs) :=
  mkBoolean_eq_some.mpr ⟨xs, rebuild_slots convBool .bool xs (fun _ _ => rfl) (fun _ _ => rfl), hw, rfl⟩

def slotArgs : Slots → List GoVal
  | .nil => []
  | .item t r => .item t :: slotArgs r
  | .var n r => .str n :: slotArgs r

theorem mkListSlots_slotArgs : ∀ xs : Slots, mkListSlots (slotArgs xs) = some xs
  | .nil => rfl
  | .item t r => by simp [slotArgs, mkListSlots, mkListSlots_slotArgs r]
  | .var n r => by simp [slotArgs, mkListSlots, mkListSlots_slotArgs r]

theorem rebuild_list (xs : Slots) (hw : (Tmpl.list xs).wf = true) : mkList (slotArgs xs) = some (.list xs) := by
  obtain ⟨hlen, _, hown, hnd⟩ := wf_list_iff.mp hw
  exact mkList_eq_some.mpr ⟨xs, mkListSlots_slotArgs xs, hlen, hown, hnd, rfl⟩

theorem rebuild_ascii (str : Bytes) (hw : (Tmpl.ascii str).wf = true) : mkAscii str = some (.ascii str) :=
  mkAscii_eq_some.mpr ⟨hw, rfl⟩

theorem rebuild_asciiVar (n : Name) (mn mx : Int) (hw : (Tmpl.asciiVar n mn mx).wf = true) :
    mkAsciiVar n mn mx = some (.asciiVar n mn mx) :=
  mkAsciiVar_eq_some.mpr ⟨hw, rfl⟩

end Sml

theorem checked_eq_some {m m' : Msg} : checked m = some m' ↔ m.valid = true ∧ m = m' := by
  simp only [checked, Option.ite_none_right_eq_some, Option.some.injEq]

theorem Msg.valid_iff (m : Msg) : m.valid = true ↔
    (Utf8.runes m.name).any Utf8.isSpace = false ∧ (0 ≤ m.stream ∧ m.stream < 128) ∧ (0 ≤ m.function ∧ m.function < 256) ∧
      ¬(m.waitBit = 1 ∧ m.function % 2 = 0) ∧ (0 ≤ m.waitBit ∧ m.waitBit ≤ 2) ∧ (-1 ≤ m.sessionID ∧ m.sessionID < 65536) ∧
      m.sysBytes.length = 4 ∧ (m.direction = dirHE ∨ m.direction = dirEH ∨ m.direction = dirBoth) := by
  simp only [Msg.valid, Bool.and_eq_true, Bool.and_eq_false_imp, Bool.or_eq_true, decide_eq_true_eq,
    beq_iff_eq, and_assoc, or_assoc, not_and, Bool.not_eq_eq_eq_not, Bool.not_true, beq_eq_false_iff_ne, ne_eq]

theorem checked_eq_none {m : Msg} : checked m = none ↔ m.valid = false := by
  simp only [checked, ite_eq_right_iff, reduceCtorEq, imp_false, Bool.not_eq_true]

end Secs
