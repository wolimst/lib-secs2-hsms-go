/-
The SML parser model never takes the `.panic` outcome: the only call that is not under a
recover is NewDataMessage at the end of a message, and the arguments the parser hands to it are
always in its domain — stream and function clamped, the wait bit never `W` on an even function,
the direction one of the three the lexer can produce, the name free of white space because the
lexer ends a name at the first white-space rune.

The first half is about the parser, on any token list whose direction and name tokens are as
`TokInv` says (`parseToks_no_panic`). The second half is lexer theory (`matchDir_ok`, `nameOk_cons`,
`scanName_nameOk`, `hdrScan_inv`, `scanSig_inv`, `lexFrom_inv`): every token of the lexer's stream
is so. It stands here, next to its one use: `TokInv` is what the constructor checks, and the lexer
modules have no other need of it.
-/
import SecsModel.Proofs.LexLayout
import SecsModel.Proofs.ParserFuel
import SecsModel.Proofs.Factories
namespace Secs
namespace Sml
open Lex

/-- what the lexer guarantees about the two header tokens the constructor checks: the name holds no
white-space rune, the direction is one of the three -/
def nameOk (v : Bytes) : Prop := (Utf8.runes v).any Utf8.isSpace = false
def dirOk (v : Bytes) : Prop := v = dirHE ∨ v = dirEH ∨ v = dirBoth
def TokInv (t : Tok) : Prop := (t.kind = .direction → dirOk t.val) ∧ (t.kind = .msgName → nameOk t.val)

theorem peek_inv (s : PS) (h : ∀ t ∈ s.toks, TokInv t) : TokInv s.peek := by
  cases hs : s.toks with
  | nil => rw [TokInv, peek_nil_kind s hs]; exact ⟨nofun, nofun⟩
  | cons t r => exact peek_cons hs ▸ h t (by simp [hs])

theorem inv_of_suf {a b : List Tok} (h : a <:+ b) (hb : ∀ t ∈ b, TokInv t) : ∀ t ∈ a, TokInv t :=
  fun t ht => hb t (h.subset ht)

theorem waitBitOf_ok (fn : Int) (s : PS) :
    ((waitBitOf fn s).1 = 0 ∨ (waitBitOf fn s).1 = 1 ∨ (waitBitOf fn s).1 = 2) ∧
    ((waitBitOf fn s).1 = 1 → fn % 2 ≠ 0) := by
  fun_cases waitBitOf fn s <;> simp_all

theorem streamFunction_range (s : PS) (t : Tok) :
    (0 ≤ (streamFunction s t).1 ∧ (streamFunction s t).1 < 128) ∧
    (0 ≤ (streamFunction s t).2.1 ∧ (streamFunction s t).2.1 < 256) := by
  unfold streamFunction
  dsimp only
  split <;> split <;> simp_all

theorem mkMsg_some (name : Bytes) (st fn wb : Int) (dir : Bytes) (it : Tmpl)
    (hn : nameOk name) (hst : 0 ≤ st ∧ st < 128) (hfn : 0 ≤ fn ∧ fn < 256)
    (hwb : wb = 0 ∨ wb = 1 ∨ wb = 2) (hw1 : wb = 1 → fn % 2 ≠ 0) (hd : dirOk dir) :
    ∃ m, mkMsg name st fn wb dir it = some m := by
  unfold mkMsg checked
  rw [if_pos ((Msg.valid_iff ⟨name, st, fn, wb, dir, it, -1, [0, 0, 0, 0]⟩).mpr
    ⟨hn, hst, hfn, fun h => hw1 h.1 h.2, show 0 ≤ wb ∧ wb ≤ 2 by omega,
      show (-1 : Int) ≤ -1 ∧ (-1 : Int) < 65536 by decide, rfl, hd⟩)]
  exact ⟨_, rfl⟩

theorem directionOf_ok (s : PS) (h : ∀ t ∈ s.toks, TokInv t) : dirOk (directionOf s).1 := by
  fun_cases directionOf s
  · rename_i hk
    exact (peek_inv s h).1 (eq_of_beq hk)
  · exact .inr (.inr rfl)

theorem nameOf_ok (s : PS) (h : ∀ t ∈ s.toks, TokInv t) : nameOk (nameOf s).1 := by
  fun_cases nameOf s
  · rename_i hk
    exact (peek_inv s h).2 (eq_of_beq hk)
  · exact (by decide : (Utf8.runes []).any Utf8.isSpace = false)

theorem finishMsg_no_panic (name : Bytes) (st fn wb : Int) (dir : Bytes) (item : R Tmpl) (s : PS)
    (hm : ∀ it, ∃ m, mkMsg name st fn wb dir it = some m) :
    (finishMsg name st fn wb dir item s).1 ≠ some none := by
  cases item with
  | stop => rw [finishMsg_stop]; nofun
  | panic => rw [finishMsg_panic]; nofun
  | ok it =>
    rw [finishMsg_ok]
    split
    · nofun
    · obtain ⟨m, hm⟩ := hm it
      rw [hm]
      nofun

/-- a message never makes NewDataMessage refuse -/
theorem parseMessage_no_panic (s : PS) (h : ∀ t ∈ s.toks, TokInv t) : (parseMessage s).1 ≠ some none := by
  unfold parseMessage
  dsimp only
  split
  · simp
  · apply finishMsg_no_panic
    intro it
    have h0 : ∀ t ∈ s.resetScope.pop.toks, TokInv t := inv_of_suf (suf_pop _) h
    have h1 : ∀ t ∈ (streamFunction s.resetScope.pop s.resetScope.peek).2.2.toks, TokInv t := by
      rw [streamFunction_toks]; exact h0
    have h2 := inv_of_suf (waitBitOf_suf (streamFunction s.resetScope.pop s.resetScope.peek).2.1 _) h1
    have h3 := inv_of_suf (directionOf_suf _) h2
    have hr := streamFunction_range s.resetScope.pop s.resetScope.peek
    have hw := waitBitOf_ok (streamFunction s.resetScope.pop s.resetScope.peek).2.1 (streamFunction s.resetScope.pop s.resetScope.peek).2.2
    exact mkMsg_some _ _ _ _ _ it (nameOf_ok _ h3) hr.1 hr.2 hw.1 hw.2 (directionOf_ok _ h2)

-- patterns on the analysed argument only, the rest by `fun`: a pattern over all arguments builds a matcher over each
theorem parseLoop_no_panic : ∀ (fuel : Nat) (s : PS) (acc : List Msg), (∀ t ∈ s.toks, TokInv t) →
    parseLoop fuel s acc ≠ none
  | 0 => fun s acc _ => by simp [parseLoop]
  | fuel + 1 => fun s acc h => by
    unfold parseLoop
    split
    · simp
    · have hp := parseMessage_no_panic s h
      have hs := parseMessage_suf s
      split
      · nofun
      · rename_i hm
        exact absurd (congrArg Prod.fst hm) hp
      · rename_i hm
        rw [hm] at hs
        exact parseLoop_no_panic fuel _ _ (inv_of_suf hs h)

theorem parseToks_no_panic (toks : List Tok) (h : ∀ t ∈ toks, TokInv t) : parseToks toks ≠ .panic := by
  unfold parseToks
  have := parseLoop_no_panic (toks.length + 1) { toks := toks } [] h
  cases hp : parseLoop (toks.length + 1) { toks := toks } [] with
  | none => exact absurd hp this
  | some r =>
    simp only
    split <;> simp

theorem toUpperB_either {x : Nat} (c : Nat) (hc : 65 ≤ c ∧ c ≤ 90) (h : (x == c || x == c + 32) = true) : toUpperB x = c := by
  simp only [Bool.or_eq_true, beq_iff_eq] at h
  unfold toUpperB isLowerB
  rcases h with rfl | rfl
  · rw [if_neg (by simp only [Bool.and_eq_true, decide_eq_true_eq]; omega)]
  · rw [if_pos (by simp only [Bool.and_eq_true, decide_eq_true_eq]; omega)]; omega

theorem matchDir_ok (s v : Bytes) (h : matchDir s = some v) : dirOk (upper v) := by
  revert h
  fun_cases matchDir s <;> intro h <;> cases h
  all_goals
    simp only [upper, List.map_cons, List.map_nil, toUpperB_either 72 (by decide) ‹(_ == 72 || _ == 104) = true›,
      toUpperB_either 69 (by decide) ‹(_ == 69 || _ == 101) = true›]
  · exact .inl (by decide)
  · exact .inr (.inr (by decide))
  · exact .inr (.inl (by decide))

open Utf8 in
/-- A first rune that is not white space, cut out together with a white-space-free piece of what
follows it, is white-space-free: the constructor decodes the name on its own, after the lexer cut it
out of the input, and cutting behind a rune does not change how it decodes (`decodeRune_take`). -/
theorem nameOk_cons (s nm : Bytes) (hs : s ≠ []) (hr : isSpace (decodeRune s).1 = false)
    (hpre : nm <+: s.drop (decodeRune s).2) (hn : nameOk nm) : nameOk (s.take (decodeRune s).2 ++ nm) := by
  have hwle := decodeRune_width_le s
  obtain ⟨b, r, rfl⟩ := List.exists_cons_of_ne_nil hs
  have hwpos := decodeRune_width_pos b r
  have hnm : (b :: r).take (decodeRune (b :: r)).2 ++ nm = (b :: r).take ((decodeRune (b :: r)).2 + nm.length) := by
    rw [List.take_add, ← List.prefix_iff_eq_take.mp hpre]
  have hdec : decodeRune ((b :: r).take (decodeRune (b :: r)).2 ++ nm) = decodeRune (b :: r) := by
    rw [hnm]; exact decodeRune_take _ _ (by omega)
  have hdrop : ((b :: r).take (decodeRune (b :: r)).2 ++ nm).drop (decodeRune (b :: r)).2 = nm := by
    rw [List.drop_append_of_le_length (by rw [List.length_take]; omega), List.drop_of_length_le (by rw [List.length_take]; omega)]
    rfl
  unfold nameOk
  rw [runes_cons_rune _ (by rw [hnm]; exact take_ne_nil _ _ hs (by omega)), hdec, hdrop, List.any_cons, hr]
  exact hn

theorem scanName_nameOk (fuel : Nat) (s : Bytes) : nameOk (scanName fuel s) := by
  fun_induction scanName fuel s
  case case5 ih =>
    rename_i s hs r w hd hsp _
    obtain ⟨rfl, rfl⟩ : r = (Utf8.decodeRune s).1 ∧ w = (Utf8.decodeRune s).2 := by rw [hd]; exact ⟨rfl, rfl⟩
    exact nameOk_cons s _ (fun e => hs e) (by simpa using hsp) (scanName_prefix _ _) ih
  all_goals rfl

theorem hdrScan_inv {s : Bytes} {k : Kind} {v raw : Bytes} {m : Mode} (h : hdrScan s = some (k, v, raw, m))
    (hs : Utf8.isSpace (Utf8.decodeRune s).1 = false) : (k = .direction → dirOk v) ∧ (k = .msgName → nameOk v) := by
  revert h
  fun_cases hdrScan s <;> intro h <;> (try simp only [*, if_true, if_false, Bool.false_eq_true] at h) <;> cases h
  case case5 hv => exact ⟨fun _ => matchDir_ok _ _ hv, nofun⟩
  case case8 =>
    refine ⟨nofun, fun _ => ?_⟩
    rw [Nat.max_eq_left (Utf8.decodeRune_width_pos _ _)]
    exact nameOk_cons _ _ nofun hs (scanName_prefix _ _) (scanName_nameOk _ _)
  all_goals exact ⟨nofun, nofun⟩

/-- one step from where skipping stopped: `hy` is what `skipR_head` gives -/
theorem scanSig_inv (ual : List Nat) (m : Mode) (y : Bytes)
    (hy : ∀ c r, y = c :: r → m = .header → Utf8.isSpace (Utf8.decodeRune (c :: r)).1 = false) :
    TokInv (scanSig ual m y).1 ∧ ∀ m' r, (scanSig ual m y).2 = some (m', r) → r.length < y.length := by
  have shorter : ∀ raw : Bytes, raw ≠ [] → raw <+: y → (y.drop raw.length).length < y.length := fun raw hne hp => by
    have := hp.length_le
    have := List.length_pos_iff.mpr hne
    rw [List.length_drop]
    omega
  unfold scanSig
  cases m with
  | header =>
    dsimp only
    split
    · exact ⟨⟨nofun, nofun⟩, nofun⟩
    · rename_i k v raw m' hs
      obtain ⟨_, _, _, hne, hp⟩ := hdrScan_tok hs
      obtain ⟨c, r, rfl⟩ := List.exists_cons_of_ne_nil (fun e : y = [] => hne (List.prefix_nil.mp (e ▸ hp)))
      exact ⟨hdrScan_inv hs (hy c r rfl rfl), fun _ _ e => by cases e; exact shorter raw hne hp⟩
  | text =>
    dsimp only
    split
    · exact ⟨⟨nofun, nofun⟩, nofun⟩
    · exact ⟨⟨nofun, nofun⟩, nofun⟩
    · rename_i k v raw m' hs
      obtain ⟨_, _, hd, hn, _, hne, hp⟩ := txtScan_tok hs
      exact ⟨⟨fun e => absurd e hd, fun e => absurd e hn⟩,
        fun _ _ e => by cases e; exact shorter raw hne hp⟩

theorem lexFrom_inv (ual : List Nat) (m : Mode) (x : Bytes) : ∀ t ∈ (lexFrom ual m x).map eraseT, TokInv t := by
  intro t ht
  obtain ⟨hinv, hlen⟩ := scanSig_inv ual m (skipR m x)
    (fun c r e hm => (skipR_head m x c r e).2 hm)
  rw [lexFrom_unfold] at ht
  split at ht
  · rename_i hsig
    rw [hsig] at hinv
    exact List.mem_singleton.mp ht ▸ hinv
  · rename_i t0 m' r hsig
    rw [hsig] at hinv hlen
    rcases List.mem_cons.mp ht with rfl | ht
    · exact hinv
    · have : r.length < x.length := Nat.lt_of_lt_of_le (hlen m' r rfl) (skipR_suffix m x).length_le
      exact lexFrom_inv ual m' r t ht
termination_by x.length
decreasing_by assumption

/-- **The SML parser never panics**: for every input the outcome is a normal return. -/
theorem parse_no_panic (ual : List Nat) (input : Bytes) : parse ual input ≠ .panic :=
  parseToks_no_panic _ fun t ht =>
    lexFrom_inv ual .header input (eraseT t) (List.mem_map_of_mem (List.mem_filter.mp ht).1)

end Sml
end Secs
