/-
`utf8.DecodeRuneInString` as modelled: how wide the first rune is, and how far into the input its
decoding looks: more input changes the first rune only by completing it (`decodeRune_append`), so
a byte that continues no rune ends it (`decodeRune_cut`) and a cut behind it leaves it as it is
(`decodeRune_take`).
-/
import SecsModel.Model.Utf8
namespace Secs
namespace Utf8

theorem decodeRune_ascii (c : Nat) (r : Bytes) (h : c < 128) : decodeRune (c :: r) = (c, 1) := by
  unfold decodeRune
  exact if_pos h

theorem decodeRune_width_le (s : Bytes) : (decodeRune s).2 ≤ s.length := by
  fun_cases decodeRune s <;> simp

theorem decodeRune_width_pos (b : Nat) (r : Bytes) : 1 ≤ (decodeRune (b :: r)).2 := by
  generalize hs : b :: r = s
  fun_cases decodeRune s <;> first | exact Nat.succ_le_succ (Nat.zero_le _) | cases hs

/-- a second byte within the bounds a lead byte sets is a continuation byte -/
theorem isCont_of_bounds {lo hi x : Nat} (hlo : 128 ≤ lo) (hhi : hi ≤ 191) (h1 : lo ≤ x) (h2 : x ≤ hi) : isCont x = true := by
  simp only [isCont, Bool.and_eq_true, decide_eq_true_eq]; omega

/-- the test of a multi-byte rune fails, and the result is the error, or it holds, and then `h` is to be shown -/
theorem completes_or {c : Nat} {p q : Bytes} {C : Bool} {A : Nat × Nat}
    (h : C = true → (c :: p).length < A.2 ∧ ∃ x, q.head? = some x ∧ isCont x = true) :
    (if C = true then A else (runeError, 1)) = (runeError, 1) ∨
      ((c :: p).length < (if C = true then A else (runeError, 1)).2 ∧ ∃ x, q.head? = some x ∧ isCont x = true) := by
  cases C
  · exact .inl rfl
  · exact .inr (h rfl)

/-- more input changes the first rune only by completing it: then the rune ends in what was added,
which begins with a continuation byte -/
theorem decodeRune_append (c : Nat) (p q : Bytes) :
    decodeRune (c :: p ++ q) = decodeRune (c :: p) ∨
      ((c :: p).length < (decodeRune (c :: p ++ q)).2 ∧ ∃ x, q.head? = some x ∧ isCont x = true) := by
  generalize hs : c :: p = s
  fun_cases decodeRune s
  all_goals cases hs
  -- The cases are the branches of `decodeRune` in its order. Where the lead byte asks for more bytes than `p`
  -- holds, the longer input is taken apart once (`l`), its test decided once (`completes_or`), and only then
  -- `p`: a `simp … <;> grind` for every shape of `p` and `q` costs ten times as much.
  case case6 h => -- a two-byte lead byte and nothing behind it
    rw [List.cons_append]
    generalize hl : p ++ q = l
    rcases l with _ | ⟨x, t⟩
    · exact .inl (by simp [decodeRune, *])
    · simp only [decodeRune, *, if_false, if_true]
      refine completes_or fun hV => ?_
      rcases p with _ | ⟨b1, p⟩
      · cases hl; exact ⟨by simp, x, rfl, hV⟩
      · exact (h _ _ rfl).elim
  case case9 h => -- a three-byte lead byte and fewer than two bytes behind it
    rw [List.cons_append]
    generalize hl : p ++ q = l
    rcases l with _ | ⟨x, _ | ⟨y, t⟩⟩
    iterate 2 exact .inl (by simp [decodeRune, *])
    simp only [decodeRune, *, if_false, if_true]
    refine completes_or fun hV => ?_
    simp only [Bool.and_eq_true, decide_eq_true_eq] at hV
    rcases p with _ | ⟨b1, _ | ⟨b2, p⟩⟩
    · cases hl; exact ⟨by simp, x, rfl, isCont_of_bounds (by split <;> decide) (by split <;> decide) hV.1.1 hV.1.2⟩
    · cases hl; exact ⟨by simp, y, rfl, hV.2⟩
    · exact (h _ _ _ rfl).elim
  case case12 h => -- a four-byte lead byte and fewer than three bytes behind it
    rw [List.cons_append]
    generalize hl : p ++ q = l
    rcases l with _ | ⟨x, _ | ⟨y, _ | ⟨z, t⟩⟩⟩
    iterate 3 exact .inl (by simp [decodeRune, *])
    simp only [decodeRune, *, if_false, if_true]
    refine completes_or fun hV => ?_
    simp only [Bool.and_eq_true, decide_eq_true_eq] at hV
    rcases p with _ | ⟨b1, _ | ⟨b2, _ | ⟨b3, p⟩⟩⟩
    · cases hl; exact ⟨by simp, x, rfl, isCont_of_bounds (by split <;> decide) (by split <;> decide) hV.1.1.1 hV.1.1.2⟩
    · cases hl; exact ⟨by simp, y, rfl, hV.1.2⟩
    · cases hl; exact ⟨by simp, z, rfl, hV.2⟩
    · exact (h _ _ _ _ rfl).elim
  -- the rune, or its error, is decided within `c :: p`
  case case7 h | case8 h | case10 h | case11 h =>
    left; simp only [decodeRune, List.cons_append, *, if_false, if_true]; first | exact if_pos h | exact if_neg h
  all_goals left; simp [decodeRune, *]

theorem decodeRune_cut (c : Nat) (pre : Bytes) (w : Nat) (hw : isCont w = false) (b : Bytes) :
    decodeRune (c :: pre ++ w :: b) = decodeRune (c :: pre) :=
  (decodeRune_append c pre (w :: b)).resolve_right (by simp [hw])

theorem decodeRune_take (s : Bytes) (k : Nat) (h : (decodeRune s).2 ≤ k) : decodeRune (s.take k) = decodeRune s := by
  match s, k with
  | [], _ => simp
  | c :: r, 0 => exact absurd (decodeRune_width_pos c r) (by omega)
  | c :: r, j + 1 =>
    have e : c :: r.take j ++ r.drop j = c :: r := by simp
    rcases decodeRune_append c (r.take j) (r.drop j) with h' | ⟨h', _⟩
    · rw [List.take_succ_cons, ← h', e]
    · rw [e] at h'
      rw [List.take_succ_cons, List.take_of_length_le]
      simp only [List.length_cons, List.length_take] at h'
      omega

theorem runesAux_fuel : ∀ (f1 f2 : Nat) (s : Bytes), s.length ≤ f1 → s.length ≤ f2 → runesAux f1 s = runesAux f2 s := by
  intro f1
  induction f1 with
  | zero =>
    intro f2 s h1 _
    have : s = [] := List.eq_nil_of_length_eq_zero (by omega)
    subst this
    cases f2 <;> simp [runesAux]
  | succ n ih =>
    intro f2 s h1 h2
    cases s with
    | nil => cases f2 <;> simp [runesAux]
    | cons b r =>
      cases f2 with
      | zero => simp at h2
      | succ k =>
        simp only [runesAux]
        congr 1
        apply ih
        · simp only [List.length_drop, List.length_cons] at h1 ⊢; omega
        · simp only [List.length_drop, List.length_cons] at h2 ⊢; omega

theorem runes_cons_rune (s : Bytes) (hs : s ≠ []) :
    runes s = (decodeRune s).1 :: runes (s.drop (decodeRune s).2) := by
  cases s with
  | nil => exact absurd rfl hs
  | cons b r =>
    have hw := decodeRune_width_pos b r
    unfold runes
    simp only [List.length_cons, runesAux]
    have hm : max (decodeRune (b :: r)).2 1 = (decodeRune (b :: r)).2 := by omega
    rw [hm]
    congr 1
    apply runesAux_fuel
    · simp only [List.length_drop, List.length_cons]; omega
    · exact Nat.le_refl _

end Utf8
end Secs
