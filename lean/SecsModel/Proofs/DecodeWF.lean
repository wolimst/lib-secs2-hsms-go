/-
Every item the HSMS decoder returns is well formed (`Tmpl.wf`, with values in range and floats
finite) and variable-free: what the lenient reading relation `Spec.Denotes` denotes is a
well-formed closed tree, and the decoder is sound for that relation (Proofs/Denotes.lean).
Together with Proofs/FillWF (factories, fills, ellipsis expansion) and Proofs/ParserWF (the SML
parser) this closes the invariant over every producer of item trees in the library.
-/
import SecsModel.Proofs.MsgCodec
import SecsModel.Model.WF
namespace Secs
open Secs.Spec

/-- what the decoder's reading relation denotes is a well-formed tree: it has a strict encoding,
and the strict relation holds of well-formed trees only -/
theorem denotes_wf (p : Bytes) (t : Tmpl) (h : Denotes p t) : t.wf = true :=
  let ⟨b, hb⟩ := denotes_encodes p t h
  (enc_unique t b hb).1

theorem denotes_closed (p : Bytes) (t : Tmpl) (h : Denotes p t) : t.closed = true :=
  let ⟨b, hb⟩ := denotes_encodes p t h
  (enc_unique t b hb).2.1

theorem denotesAll_wf (p : Bytes) (xs : Slots) (h : DenotesAll p xs) : xs.wfAll = true :=
  let ⟨b, hb⟩ := denotesAll_encodesAll p xs h
  (encs_unique xs b hb).1

/-- **every item the HSMS decoder returns is well formed and variable-free** -/
theorem decItem_wf (fuel : Nat) (inp : Bytes) (t : Tmpl) (r : Bytes) (h : decItem fuel inp = some (t, r))
    (hb : IsBytes inp) : t.wf = true ∧ t.closed = true := by
  obtain ⟨p, _, hd⟩ := dec_sound fuel inp t r h hb
  exact ⟨denotes_wf p t hd, denotes_closed p t hd⟩

/-- **every data message `hsms.Parse` returns**, for every byte string, is a valid message whose
item is absent (header-only message) or well formed and variable-free -/
theorem decode_data_wf (inp : Bytes) (m : Msg) (h : decode inp = some (.data m)) (hb : IsBytes inp) :
    m.valid = true ∧ (m.item = .empty ∨ (m.item.wf = true ∧ m.item.closed = true)) := by
  obtain ⟨_, h | h⟩ := (decode_eq_some inp _).mp h
  · obtain ⟨item, m', e, rfl, hv, hitem⟩ := decodeData_some inp _ h.2
    cases e
    refine ⟨hv, hitem.imp (·.2) fun ht => ?_⟩
    exact decItem_wf _ _ _ _ ((decodeText_eq_some _ _).mp ht) (isBytes_drop inp 14 hb)
  · cases ((decodeCtrl_eq_some inp _).mp h.2).2

end Secs
