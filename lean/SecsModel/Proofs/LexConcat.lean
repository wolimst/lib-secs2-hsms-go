/-
Lexer locality. `p ++ [10]` is the text up to a point, cut off by a line feed, and lexed without a
lexing error; then the tokens of `p ++ w :: b`, for any blank `w` and any `b`, are the tokens of
`p ++ [10]` (without the end-of-input token) followed by the tokens of `b`, lexed in the mode in
which they leave the lexer - provided no comment is open at the end of `p` (`lexFrom_blank`). For
`w` a line feed no proviso is needed: the tokens of `x ++ b`, for `x` ending with a line feed, are
those of `x` followed by those of `b` (`lexFrom_concat`).
-/
import SecsModel.Proofs.LexCut
namespace Secs
namespace Lex

/-- the mode in which the lexer stands after the tokens `ts` -/
def modeOf (m : Mode) (ts : List Tok) : Mode := ts.foldl (fun m t => nextMode m t.kind) m

theorem modeOf_cons (m : Mode) (t : Tok) (ts : List Tok) : modeOf m (t :: ts) = modeOf (nextMode m t.kind) ts := rfl

theorem lexFrom_blank (ual : List Nat) (b : Bytes) (w : Nat) (hw : isBlank w = true) :
    ∀ (n : Nat) (p : Bytes) (m : Mode), p.length ≤ n →
    (∀ t ∈ (lexFrom ual m (p ++ [10])).map eraseT, t.kind ≠ .error) → COK w p →
    ∃ ts, (lexFrom ual m (p ++ [10])).map eraseT = ts ++ [eofTok] ∧
      (lexFrom ual m (p ++ w :: b)).map eraseT = ts ++ (lexFrom ual (modeOf m ts) b).map eraseT ∧
      (∀ t ∈ ts, t.kind ≠ .eof ∧ t.kind ≠ .error) := by
  -- everything is skipped: the first stream is the end-of-input token, the second that of `b`
  have skipped : ∀ (p : Bytes) (m : Mode), skipR m p = [] →
      ∃ ts, (lexFrom ual m (p ++ [10])).map eraseT = ts ++ [eofTok] ∧
        (lexFrom ual m (p ++ w :: b)).map eraseT = ts ++ (lexFrom ual (modeOf m ts) b).map eraseT ∧
        (∀ t ∈ ts, t.kind ≠ .eof ∧ t.kind ≠ .error) := by
    intro p m hy
    refine ⟨[], ?_, ?_, by simp⟩
    · rw [lexFrom_unfold, skipR_cut m (w := 10) (by decide) [] p, if_pos hy, skipR_nil, scanSig_nil]
      rfl
    · rw [lexFrom_unfold, skipR_cut m hw b p, if_pos hy]
      exact (lexFrom_unfold ual m b).symm
  intro n
  induction n with
  | zero =>
    intro p m hn _ _
    obtain rfl : p = [] := List.length_eq_zero_iff.mp (by omega)
    exact skipped [] m (skipR_nil m)
  | succ n ih =>
    intro p m hn hne hC
    cases hy : skipR m p with
    | nil => exact skipped p m hy
    | cons c p' =>
      have hsuf : c :: p' <:+ p := hy ▸ skipR_suffix m p
      have e10 : skipR m (p ++ [10]) = c :: p' ++ [10] := by
        rw [skipR_cut m (w := 10) (by decide) [] p, hy]; rfl
      have ew : skipR m (p ++ w :: b) = c :: p' ++ w :: b := by
        rw [skipR_cut m hw b p, hy]; rfl
      rw [lexFrom_unfold, e10] at hne
      rw [lexFrom_unfold ual m (p ++ [10]), lexFrom_unfold ual m (p ++ w :: b), e10, ew]
      cases hs : scanSig ual m (c :: p' ++ [10]) with
      | mk t o =>
        rw [hs] at hne
        cases o with
        | none => exact absurd (scanSig_cons_none ual m c _ t hs) (hne t (by simp))
        | some mr =>
          obtain ⟨m', r⟩ := mr
          obtain ⟨q, hq, hql, rfl, hsw, rfl, hk1, hk2⟩ := scanSig_cut ual m c p' hw b (hC.suffix hsuf) t m' r hs
          obtain ⟨ts, i1, i2, i3⟩ := ih q _ (by have := hsuf.length_le; omega)
            (fun x hx => hne x (List.mem_cons_of_mem _ hx)) (hC.suffix (hq.trans hsuf))
          refine ⟨t :: ts, by simp only [i1]; rfl, ?_, ?_⟩
          · simp only [hsw, i2, modeOf_cons]; rfl
          · intro x hx
            rcases List.mem_cons.mp hx with rfl | hx
            · exact ⟨hk1, hk2⟩
            · exact i3 x hx

/-- the text ends with a line feed -/
def EndsLF (x : Bytes) : Prop := ∃ pre, x = pre ++ [10]

/-- **Lexer locality.** `x` ends with a line feed and is lexed (from mode `m`) without a lexing
error. Then its tokens are `ts` and the end-of-input token, and the tokens of `x ++ b` are `ts`
followed by the tokens of `b`, lexed in the mode in which `ts` leaves the lexer. -/
theorem lexFrom_concat (ual : List Nat) (b : Bytes) : ∀ (n : Nat) (x : Bytes) (m : Mode), x.length ≤ n → EndsLF x →
    (∀ t ∈ (lexFrom ual m x).map eraseT, t.kind ≠ .error) →
    ∃ ts, (lexFrom ual m x).map eraseT = ts ++ [eofTok] ∧
      (lexFrom ual m (x ++ b)).map eraseT = ts ++ (lexFrom ual (modeOf m ts) b).map eraseT ∧
      (∀ t ∈ ts, t.kind ≠ .eof ∧ t.kind ≠ .error) := by
  rintro n _ m hn ⟨p, rfl⟩ hne
  rw [List.append_assoc]
  exact lexFrom_blank ual b 10 rfl n p m (by simp at hn; omega) hne (Or.inl rfl)

theorem modeOf_append (m : Mode) (a b : List Tok) : modeOf m (a ++ b) = modeOf (modeOf m a) b := by
  simp [modeOf, List.foldl_append]

theorem modeOf_filter (m : Mode) (ts : List Tok) :
    modeOf m (ts.filter (fun t => t.kind != .comment)) = modeOf m ts := by
  induction ts generalizing m with
  | nil => rfl
  | cons t ts ih =>
    simp only [List.filter_cons]
    split
    · rw [modeOf_cons, modeOf_cons, ih]
    · rename_i hk
      have : t.kind = .comment := by
        cases hkk : t.kind <;> first | rfl | (rw [hkk] at hk; exact absurd hk (by decide))
      rw [modeOf_cons, this, ih]
      rfl

theorem modeOf_ends_msgEnd (m : Mode) (pre : List Tok) (d : Tok) (hd : d.kind = .msgEnd) :
    modeOf m (pre ++ [d]) = .header := by
  rw [modeOf_append]
  simp [modeOf, hd, nextMode]

/-! ### corollaries: the steps on a text that ends with a line feed, and on two texts equal up to a
final blank -/

theorem EndsLF.cons_ne {c : Nat} {r : Bytes} (h : EndsLF (c :: r)) (hc : c ≠ 10) : EndsLF r := by
  obtain ⟨pre, hp⟩ := h
  cases pre with
  | nil => cases hp; exact absurd rfl hc
  | cons d pre' => exact ⟨pre', (List.cons.inj hp).2⟩

open Utf8 in
theorem hdrScan_lf (c : Nat) (r b : Bytes) (h : EndsLF (c :: r)) (hc : c ≠ 10) :
    hdrScan (c :: r ++ b) = hdrScan (c :: r) ∧
    ∃ k v raw m, hdrScan (c :: r) = some (k, v, raw, m) ∧ raw.length < (c :: r).length ∧ raw ≠ [] ∧ m = nextMode .header k := by
  obtain ⟨p', rfl⟩ := h.cons_ne hc
  obtain ⟨k, v, raw, h1, h2, h3, h4, _⟩ := hdrScan_at_blank c p' (w := 10) rfl b
    (fun hs => (scanComment_closed (c :: p') 10 b (Or.inr rfl)).1)
  rw [← List.cons_append, List.append_assoc]
  refine ⟨by rw [h1]; exact h2, k, v, raw, _, h1, ?_, h3, rfl⟩
  have := h4.length_le
  simp only [List.length_cons, List.length_append] at this ⊢
  omega

theorem txtScan_lf (ual : List Nat) (c : Nat) (r b : Bytes) (h : EndsLF (c :: r)) (hc : c ≠ 10)
    (k : Kind) (v raw : Bytes) (m : Mode) (ht : txtScan ual (c :: r) = .tok k v raw m) :
    txtScan ual (c :: r ++ b) = .tok k v raw m ∧ raw.length < (c :: r).length ∧ raw ≠ [] ∧ m = nextMode .text k := by
  obtain ⟨p', rfl⟩ := h.cons_ne hc
  obtain ⟨h1, h2, h3, h4, _⟩ := txtScan_at_blank ual c p' (w := 10) rfl b
    (fun hs => (scanComment_closed (c :: p') 10 b (Or.inr rfl)).1) k v raw m ht
  rw [← List.cons_append, List.append_assoc]
  refine ⟨h1, ?_, h2, h4⟩
  have := h3.length_le
  simp only [List.length_cons, List.length_append] at this ⊢
  omega

theorem txtScan_blank (ual : List Nat) (c : Nat) (r b : Bytes) (w : Nat) (hw : isBlank w = true)
    (hC : startsWith [47, 47] (c :: r ++ [10]) = true → scanComment (c :: r ++ w :: b) = scanComment (c :: r ++ [10]))
    (k : Kind) (v raw : Bytes) (m : Mode) (ht : txtScan ual (c :: r ++ [10]) = .tok k v raw m) :
    txtScan ual (c :: r ++ w :: b) = .tok k v raw m :=
  (txtScan_at_blank ual c r hw b (fun hs => hC (by rw [startsWith_cut (by decide) _ (by decide), hs])) k v raw m ht).1

/-- skipping what the mode ignores, on a text cut off by a line feed and on the same text followed
by another blank and more input: either everything is skipped, or skipping stops at the same
place -/
theorem skipR_pair (m : Mode) (w : Nat) (hw : isBlank w = true) (b : Bytes) : ∀ (n : Nat) (p : Bytes), p.length ≤ n →
    (skipR m (p ++ [10]) = [] ∧ skipR m (p ++ w :: b) = skipR m b) ∨
    (∃ c p', (c :: p') <:+ p ∧ isBlank c = false ∧ skipR m (p ++ [10]) = c :: p' ++ [10] ∧ skipR m (p ++ w :: b) = c :: p' ++ w :: b) := by
  intro n p _
  rw [skipR_cut m (w := 10) rfl [] p, skipR_cut m hw b p]
  cases hy : skipR m p with
  | nil => exact Or.inl ⟨rfl, rfl⟩
  | cons c p' =>
    exact Or.inr ⟨c, p', hy ▸ skipR_suffix m p, (skipR_head m p c p' hy).1, rfl, rfl⟩

/-- equal up to the last byte, which is a blank in both -/
def SBL (x y : Bytes) : Prop := ∃ pre w1 w2, x = pre ++ [w1] ∧ y = pre ++ [w2] ∧ isBlank w1 = true ∧ isBlank w2 = true

theorem SBL.refl_of {pre : Bytes} {w : Nat} (hw : isBlank w = true) : SBL (pre ++ [w]) (pre ++ [w]) :=
  ⟨pre, w, w, rfl, rfl, hw, hw⟩

theorem matchW_sbl (x y b1 b2 : Bytes) (h : SBL x y) :
    matchW (x ++ b1) = matchW (y ++ b2) ∧ ∀ v, matchW (x ++ b1) = some v → v.length < x.length := by
  obtain ⟨pre, w1, w2, rfl, rfl, h1, h2⟩ := h
  simp only [List.append_assoc, List.singleton_append, matchW_cut pre h1, matchW_cut pre h2, true_and]
  intro v hv
  have := (matchW_prefix hv).length_le
  simp only [List.length_append, List.length_singleton]
  omega

theorem skipR_sbl (m : Mode) (b1 b2 : Bytes) : ∀ (n : Nat) (x y : Bytes), x.length ≤ n → SBL x y →
    (skipR m x ≠ [] → skipR m (x ++ b1) = skipR m x ++ b1 ∧ skipR m (y ++ b2) = skipR m y ++ b2 ∧ SBL (skipR m x) (skipR m y)) ∧
    (skipR m x = [] → skipR m y = [] ∧ skipR m (x ++ b1) = skipR m b1 ∧ skipR m (y ++ b2) = skipR m b2) := by
  rintro n _ _ _ ⟨p, w1, w2, rfl, rfl, h1, h2⟩
  have e : ∀ {w : Nat} (hw : isBlank w = true) (b : Bytes),
      skipR m (p ++ w :: b) = if skipR m p = [] then skipR m b else skipR m p ++ w :: b :=
    fun hw b => skipR_cut m hw b p
  simp only [List.append_assoc, List.singleton_append, e h1, e h2]
  cases hy : skipR m p with
  | nil => simp [skipR_nil]
  | cons c p' => simpa using ⟨c :: p', w1, w2, rfl, rfl, h1, h2⟩

end Lex
end Secs
