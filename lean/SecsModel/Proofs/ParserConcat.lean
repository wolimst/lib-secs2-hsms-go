/-
Token streams of accepted texts can be put one after the other: the message loop parses the
messages of the first stream exactly as it does alone, and then stands at the second stream with
the messages, warnings and (irrelevant) scope of the first.
-/
import SecsModel.Proofs.ParserLocal
import SecsModel.Proofs.ParserErrs
namespace Secs
namespace Sml
open Lex

theorem parseMessage_success (s : PS) (m : Msg) (s1 : PS) (h : parseMessage s = (some (some m), s1)) :
    (∃ it, (msgItem (preItem s)).1 = .ok it) ∧ (preFinish s).peek.kind = .msgEnd ∧ s1 = (preFinish s).pop := by
  rcases parseMessage_run s with ⟨_, e⟩ | ⟨_, name, st, fn, wb, dir, e⟩ <;> rw [e] at h
  · cases h
  · cases hi : (msgItem (preItem s)).1 with
    | ok it =>
      rw [hi, finishMsg_ok] at h
      split at h
      · cases h
      · rename_i hk
        exact ⟨⟨it, rfl⟩, by simpa using hk, (Prod.mk.inj h).2.symm⟩
    | stop => rw [hi, finishMsg_stop] at h; cases h
    | panic => rw [hi, finishMsg_panic] at h; cases h

/-- **One message on a prefix.** A message built from tokens `A` closed by an end-of-input token is
built the same, from the same tokens, when anything else follows `A`: its terminator is a token of
`A`, so the parser has decided before it could look past `A`. -/
theorem parseMessage_prefix (e : Tok) (he : e.kind = .eof) (B A : List Tok) (s : PS) (m : Msg) (s1 : PS)
    (hs : s.toks = A ++ [e]) (hm : parseMessage s = (some (some m), s1)) :
    ∃ T, T <:+ A ∧ T.length < A.length ∧ s1.toks = T ++ [e] ∧
      parseMessage (s.withToks (A ++ B)) = (some (some m), s1.withToks (T ++ B)) := by
  obtain ⟨_, hk, _⟩ := parseMessage_success s m s1 hm
  have hlen : [e].length < (preFinish s).toks.length := by
    -- the state in front of the terminator holds the terminator and `e`
    obtain ⟨p, hp⟩ := (preFinish_suf s).trans (suf_pop s)
    rw [hs] at hp
    rw [toks_eq_peek_pop (preFinish s) hk nofun] at hp ⊢
    cases hr : (preFinish s).pop.toks with
    | cons _ _ => simp
    | nil =>
      rw [hr] at hp
      -- `by simp`, not `rfl`: the unifier would compare the two tokens first and unfold the parser
      rw [(List.cons.inj (List.append_inj' hp (by simp)).2).1, he] at hk
      cases hk
  obtain ⟨e1, T, hT, hs1'⟩ := parseMessage_loc [e] B s _ (WSim.refl_of s A hs) hlen
  rw [hm] at e1 hT hs1'
  dsimp only at e1 hT hs1'
  obtain ⟨p, hp⟩ := parseMessage_suf s
  have hc := parseMessage_consumes s
  rw [hm] at hp hc
  rw [hs, hT, ← List.append_assoc] at hp
  have hpA := List.append_cancel_right hp
  refine ⟨T, ⟨p, hpA⟩, ?_, hT, Prod.ext e1 hs1'⟩
  have := hc (by simp)
  simp only [hT, hs, List.length_append, List.length_singleton] at this
  omega

-- patterns on the analysed argument only, the rest by `fun`: a pattern over all arguments builds a matcher over each
/-- **The message loop on a prefix.** If the loop, run on the tokens `A` followed by an end-of-input
token, reports no error, then run on `A ++ B` it arrives at `B` with the same messages and the same
state (only the unread tokens differ). -/
theorem parseLoop_prefix (e : Tok) (he : e.kind = .eof) (B : List Tok) :
    ∀ (f1 : Nat) (A : List Tok) (s : PS) (acc ms : List Msg) (sEnd : PS) (f2 : Nat),
      (∀ t ∈ A, t.kind ≠ .eof) → s.toks = A ++ [e] → s.toks.length < f1 → (A ++ B).length < f2 →
      parseLoop f1 s acc = some (ms, sEnd) → sEnd.errs = [] →
      ∃ (acc' : List Msg) (f2' : Nat), ms = acc'.reverse ∧ sEnd.toks = [e] ∧ B.length < f2' ∧
        parseLoop f2 (s.withToks (A ++ B)) acc = parseLoop f2' (sEnd.withToks B) acc'
  | 0 => fun _ _ _ _ _ _ _ _ hf _ _ _ => by omega
  | k + 1 => fun A s acc ms sEnd f2 hA hs hf1 hf2 h herr => by
    unfold parseLoop at h
    cases A with
    | nil =>
      have hp : s.peek = e := peek_cons hs
      simp only [hp, he, beq_self_eq_true, if_true, Option.some.injEq, Prod.mk.injEq] at h
      obtain ⟨h1, rfl⟩ := h
      exact ⟨acc, f2, h1.symm, by simpa using hs, by simpa using hf2, by simp⟩
    | cons a A' =>
      have hp : s.peek = a := peek_cons hs
      have hnk : (a.kind == Kind.eof) = false := by simpa using hA a (by simp)
      simp only [hp, hnk, Bool.false_eq_true, if_false] at h
      have hn := parseMessage_none_err s
      cases hm : parseMessage s with
      | mk o s1 =>
        rw [hm] at h hn
        match o, h, hn with
        | none, h, hn =>
          simp only [Option.some.injEq, Prod.mk.injEq] at h
          exact absurd (h.2 ▸ herr) (hn rfl)
        | some (some m), h, _ =>
          obtain ⟨T, hTA, hlt, hs1, hm'⟩ := parseMessage_prefix e he B (a :: A') s m s1 hs hm
          cases f2 with
          | zero => omega
          | succ j =>
            obtain ⟨acc', f2', r1, r2, r3, r4⟩ := parseLoop_prefix e he B k T s1 (m :: acc) ms sEnd j
              (fun x hx => hA x (hTA.subset hx)) hs1 (by simp [hs, hs1] at hf1 hlt ⊢; omega)
              (by simp at hf2 hlt ⊢; omega) h herr
            refine ⟨acc', f2', r1, r2, r3, ?_⟩
            rw [← r4, parseLoop]
            have hp' : (s.withToks ((a :: A') ++ B)).peek = a := rfl
            simp only [hp', hnk, hm', Bool.false_eq_true, if_false]

/-! ### the size-check flag is down between messages -/

theorem closeTail_ok_skip (item : Tmpl) (s : PS) (t : Tmpl) :
    (closeTail item s).1 = .ok t → (closeTail item s).2.skipSize = false := by
  fun_cases closeTail item s
  · nofun
  · exact fun _ => rfl

theorem closeItem_ok_skip (sizeTok : Tok) (lo hi : Int) (res : R Tmpl) (s : PS) (t : Tmpl) :
    (closeItem sizeTok lo hi res s).1 = .ok t → (closeItem sizeTok lo hi res s).2.skipSize = false := by
  fun_cases closeItem sizeTok lo hi res s
  · nofun
  · nofun
  · exact closeTail_ok_skip _ _ t
  · exact closeTail_ok_skip _ _ t

theorem itemBody_ok_skip (ll : PS → R Tmpl × PS) (s : PS) (t : Tmpl) :
    (itemBody ll s).1 = .ok t → (itemBody ll s).2.skipSize = false := by
  fun_cases itemBody ll s
  · nofun
  · nofun
  · exact closeItem_ok_skip _ _ _ _ _ t

theorem recoverItem_ok (lab : Tok) (body : R Tmpl × PS) (t : Tmpl) :
    (recoverItem lab body).1 = .ok t → recoverItem lab body = body := by
  fun_cases recoverItem lab body
  · nofun
  · exact fun _ => rfl

theorem parseItemF_ok_skip : ∀ (fuel : Nat) (s : PS) (t : Tmpl), (parseItemF fuel s).1 = .ok t →
    (parseItemF fuel s).2.skipSize = false
  | 0 => fun _ _ => nofun
  | fuel + 1 => fun s t => by
    unfold parseItemF
    dsimp only
    split
    · nofun
    · intro h
      have e := recoverItem_ok _ _ t h
      rw [e] at h ⊢
      exact itemBody_ok_skip _ _ t h

theorem streamFunction_skip (s : PS) (t : Tok) : (streamFunction s t).2.2.skipSize = s.skipSize := by
  unfold streamFunction
  dsimp only
  split <;> split <;> rfl

theorem waitBitOf_skip (fn : Int) (s : PS) : (waitBitOf fn s).2.skipSize = s.skipSize := by
  fun_cases waitBitOf fn s <;> rfl

theorem directionOf_skip (s : PS) : (directionOf s).2.skipSize = s.skipSize := by
  fun_cases directionOf s <;> rfl

theorem nameOf_skip (s : PS) : (nameOf s).2.skipSize = s.skipSize := by
  fun_cases nameOf s <;> rfl

theorem msgItem_ok_skip (s : PS) (t : Tmpl) (hs : s.skipSize = false) :
    (msgItem s).1 = .ok t → (msgItem s).2.skipSize = false := by
  fun_cases msgItem s
  · exact fun _ => hs
  · exact parseItemF_ok_skip _ s t
  · nofun

theorem pop_skip (s : PS) : s.pop.skipSize = s.skipSize := rfl

theorem parseMessage_skip (s : PS) (m : Msg) (s1 : PS) (hs : s.skipSize = false)
    (h : parseMessage s = (some (some m), s1)) : s1.skipSize = false := by
  obtain ⟨⟨it, hit⟩, _, hs1⟩ := parseMessage_success s m s1 h
  rw [hs1, pop_skip, preFinish_eq]
  refine msgItem_ok_skip (preItem s) it ?_ hit
  unfold preItem
  dsimp only
  rw [nameOf_skip, directionOf_skip, waitBitOf_skip, streamFunction_skip]
  exact hs

theorem parseLoop_skip (fuel : Nat) (s : PS) (acc ms : List Msg) (sEnd : PS) (hs : s.skipSize = false)
    (h : parseLoop fuel s acc = some (ms, sEnd)) (he : sEnd.errs = []) : sEnd.skipSize = false :=
  (parseLoop_clean (·.skipSize = false) parseMessage_skip fuel s acc ms sEnd hs h he).1

end Sml
end Secs
