/-
The base of the parser proofs. The parser state: the lemmas of its fields, `PS.withToks`, and the
value parsers that never read the token stream (`varArg`, `arrayArg`, `arrayArgs`, `asciiLoop`,
`streamFunction`). Then the parser's functions as equations for the other modules to rewrite with:
`arrayItem_eq` (with `dispatch`), `finishMsg_ok`, `parseMessage_run` (through `preItem` and
`preFinish`), `parseToks_done` and its case without errors, `parseToks_accepted`.
-/
import SecsModel.Model.Parser
namespace Secs
namespace Sml
open Lex

instance : LawfulBEq Kind where
  rfl {a} := beq_self_eq_true (α := Nat) a.ctorIdx
  eq_of_beq {a b} h := by
    have : a.ctorIdx = b.ctorIdx := eq_of_beq (α := Nat) h
    rw [← Kind.ofNat_ctorIdx a, this, Kind.ofNat_ctorIdx]

@[simp] theorem err_toks (s : PS) (t : Tok) (k : String) : (s.err t k).toks = s.toks := rfl
@[simp] theorem warn_toks (s : PS) (t : Tok) (k : String) : (s.warn t k).toks = s.toks := rfl
@[simp] theorem clearSkip_toks (s : PS) : s.clearSkip.toks = s.toks := rfl
@[simp] theorem addName_toks (s : PS) (n : Name) : (s.addName n).toks = s.toks := rfl
@[simp] theorem bumpEll_toks (s : PS) : s.bumpEll.toks = s.toks := rfl
@[simp] theorem resetScope_toks (s : PS) : s.resetScope.toks = s.toks := rfl
@[simp] theorem pop_toks (s : PS) : s.pop.toks = s.toks.drop 1 := rfl
@[simp] theorem err_errs_ne (s : PS) (t : Tok) (k : String) : (s.err t k).errs ≠ [] := by simp [PS.err]
@[simp] theorem warn_errs (s : PS) (t : Tok) (k : String) : (s.warn t k).errs = s.errs := rfl

def PS.withToks (s : PS) (l : List Tok) : PS := { s with toks := l }

@[simp] theorem withToks_toks (s : PS) (l : List Tok) : (s.withToks l).toks = l := rfl
@[simp] theorem withToks_withToks (s : PS) (l l' : List Tok) : (s.withToks l).withToks l' = s.withToks l' := rfl
@[simp] theorem withToks_self (s : PS) : s.withToks s.toks = s := rfl
@[simp] theorem err_withToks (s : PS) (l : List Tok) (t : Tok) (k : String) : (s.withToks l).err t k = (s.err t k).withToks l := rfl
@[simp] theorem warn_withToks (s : PS) (l : List Tok) (t : Tok) (k : String) : (s.withToks l).warn t k = (s.warn t k).withToks l := rfl
@[simp] theorem addName_withToks (s : PS) (l : List Tok) (n : Name) : (s.withToks l).addName n = (s.addName n).withToks l := rfl
@[simp] theorem bumpEll_withToks (s : PS) (l : List Tok) : (s.withToks l).bumpEll = s.bumpEll.withToks l := rfl
@[simp] theorem clearSkip_withToks (s : PS) (l : List Tok) : (s.withToks l).clearSkip = s.clearSkip.withToks l := rfl
@[simp] theorem resetScope_withToks (s : PS) (l : List Tok) : (s.withToks l).resetScope = s.resetScope.withToks l := rfl
@[simp] theorem withToks_names (s : PS) (l : List Tok) : (s.withToks l).names = s.names := rfl
@[simp] theorem withToks_ell (s : PS) (l : List Tok) : (s.withToks l).ell = s.ell := rfl
@[simp] theorem withToks_skip (s : PS) (l : List Tok) : (s.withToks l).skipSize = s.skipSize := rfl
@[simp] theorem withToks_errs (s : PS) (l : List Tok) : (s.withToks l).errs = s.errs := rfl
@[simp] theorem withToks_warns (s : PS) (l : List Tok) : (s.withToks l).warns = s.warns := rfl
@[simp] theorem pop_withToks (s : PS) (l : List Tok) : (s.withToks l).pop = s.withToks (l.drop 1) := rfl
theorem peek_withToks_cons (s : PS) (t : Tok) (l : List Tok) : (s.withToks (t :: l)).peek = t := rfl
theorem peek_cons {s : PS} {t : Tok} {r : List Tok} (h : s.toks = t :: r) : s.peek = t := by simp only [PS.peek, h]

theorem peek_nil_kind (s : PS) (h : s.toks = []) : s.peek.kind = .eof := by
  simp [PS.peek, h, eofClosed]

theorem toks_eq_peek_pop (s : PS) {k : Kind} (h : s.peek.kind = k) (hk : k ≠ .eof) : s.toks = s.peek :: s.pop.toks := by
  cases ht : s.toks with
  | nil => exact absurd (h ▸ peek_nil_kind s ht) hk
  | cons t r => rw [peek_cons ht, pop_toks, ht]; rfl

/-- The value parsers use the state only through `names`, `err` and by setting `names` and `skipSize`.
So a function that never reads the tokens commutes with every map of states `φ` that only changes
tokens or positions (`τ` is what it does to a token): relocating positions (`Reloc.hom`,
Proofs/ParserNat) and putting another token list in place (`withToks_hom`); by the second, such a
function leaves the tokens alone (`toks_of_withToks`). -/
structure PSHom (φ : PS → PS) (τ : Tok → Tok) : Prop where
  kind : ∀ t, (τ t).kind = t.kind
  val : ∀ t, (τ t).val = t.val
  lexErr : ∀ t, (τ t).err = t.err
  names : ∀ s, (φ s).names = s.names
  err : ∀ s t k, (φ s).err (τ t) k = φ (s.err t k)
  setNames : ∀ s n, { φ s with names := n } = φ { s with names := n }
  setSkip : ∀ s b, { φ s with skipSize := b } = φ { s with skipSize := b }

theorem withToks_hom (l : List Tok) : PSHom (·.withToks l) id :=
  ⟨fun _ => rfl, fun _ => rfl, fun _ => rfl, fun _ => rfl, fun _ _ _ => rfl, fun _ _ => rfl, fun _ _ => rfl⟩

namespace PSHom
variable {φ : PS → PS} {τ : Tok → Tok} (h : PSHom φ τ)
include h

theorem varArg (s : PS) (t : Tok) (g : GoVal) :
    varArg (φ s) (τ t) g = ((Sml.varArg s t g).1, φ (Sml.varArg s t g).2) := by
  unfold Sml.varArg
  rw [h.names, h.val, h.err, h.setNames]
  split <;> rfl

theorem arrayArg (ty : Bytes) (w : Nat) (s : PS) (t : Tok) :
    arrayArg ty w (φ s) (τ t) = (Sml.arrayArg ty w s t).map (fun r => (r.1, φ r.2)) := by
  unfold Sml.arrayArg
  rw [h.kind, h.val]
  dsimp only
  split
  · rw [h.varArg]; rfl
  · rfl
  · -- a number: every branch is `none`, or `some` of a value and `s` or `s.err t _`; the tests are
    -- the same on both sides (`ite_congr`: splitting the whole if-tree is many times dearer)
    simp only [h.err, apply_ite (Option.map _), Option.map_some, Option.map_none]
    refine ite_congr rfl (fun _ => rfl) fun _ => ite_congr rfl (fun _ => rfl) fun _ => ite_congr rfl (fun _ => ?_) fun _ =>
      ite_congr rfl (fun _ => ?_) fun _ => ?_
    all_goals split <;> rfl
  · split <;> rfl
  · rfl

theorem arrayArgs (ty : Bytes) (w : Nat) : ∀ (ts : List Tok) (s : PS),
    arrayArgs ty w (ts.map τ) (φ s) = ((Sml.arrayArgs ty w ts s).1, φ (Sml.arrayArgs ty w ts s).2)
  | [], s => rfl
  | t :: r, s => by
    simp only [List.map_cons, Sml.arrayArgs, h.kind, h.lexErr, h.arrayArg, h.err]
    split
    · rfl
    · cases Sml.arrayArg ty w s t with
      | none => rfl
      | some p =>
        simp only [Option.map_some, arrayArgs ty w r p.2]
        cases Sml.arrayArgs ty w r p.2 with
        | mk o s2 => cases o <;> rfl

theorem asciiLoop (mn mx : Int) (n : Nat) : ∀ (ts : List Tok) (lit : Bytes) (s : PS),
    asciiLoop mn mx n (ts.map τ) lit (φ s) = ((Sml.asciiLoop mn mx n ts lit s).1, φ (Sml.asciiLoop mn mx n ts lit s).2)
  | [], lit, s => rfl
  | t :: r, lit, s => by
    simp only [List.map_cons, Sml.asciiLoop, h.kind, h.val, h.lexErr, h.names]
    split <;> simp only [h.err, h.setNames, h.setSkip]
    · split <;> simp only [asciiLoop mn mx n r]
    · split <;> split <;> simp only [h.err, asciiLoop mn mx n r]
    · split
      · rfl
      · split <;> rfl

theorem streamFunction (s : PS) (t : Tok) :
    streamFunction (φ s) (τ t) =
      ((Sml.streamFunction s t).1, (Sml.streamFunction s t).2.1, φ (Sml.streamFunction s t).2.2) := by
  unfold Sml.streamFunction
  simp only [h.val]
  split <;> split <;> simp only [h.err]

end PSHom

theorem arrayArgs_withToks (ty : Bytes) (w : Nat) (l : List Tok) (ts : List Tok) (s : PS) :
    arrayArgs ty w ts (s.withToks l) = ((arrayArgs ty w ts s).1, (arrayArgs ty w ts s).2.withToks l) := by
  have := (withToks_hom l).arrayArgs ty w ts s
  rwa [List.map_id] at this

theorem asciiLoop_withToks (mn mx : Int) (n : Nat) (l : List Tok) (ts : List Tok) (lit : Bytes) (s : PS) :
    asciiLoop mn mx n ts lit (s.withToks l) = ((asciiLoop mn mx n ts lit s).1, (asciiLoop mn mx n ts lit s).2.withToks l) := by
  have := (withToks_hom l).asciiLoop mn mx n ts lit s
  rwa [List.map_id] at this

theorem streamFunction_withToks (s : PS) (l : List Tok) (t : Tok) :
    streamFunction (s.withToks l) t = ((streamFunction s t).1, (streamFunction s t).2.1, (streamFunction s t).2.2.withToks l) :=
  (withToks_hom l).streamFunction s t

theorem asciiLoop_dup_var (mn mx : Int) (t : Tok) (r : List Tok) (lit : Bytes) (s : PS) (hk : t.kind = .variable)
    (hd : s.names.contains t.val = true) :
    asciiLoop mn mx 1 (t :: r) lit s = (.ok (.ascii []), { (s.err t "duplicated variable name") with skipSize := true }) := by
  have hd' : t.val ∈ s.names := by simpa using hd
  simp [asciiLoop, hk, hd']

theorem ofFactory_ne_stop (o : Option Tmpl) : ofFactory o ≠ .stop := by
  cases o <;> nofun

theorem asciiLoop_stop_err (mn mx : Int) (n : Nat) (ts : List Tok) (lit : Bytes) (s : PS) :
    (asciiLoop mn mx n ts lit s).1 = .stop → (asciiLoop mn mx n ts lit s).2.errs ≠ [] := by
  fun_induction asciiLoop mn mx n ts lit s
  case case1 | case8 => exact fun h => absurd h (ofFactory_ne_stop _)
  case case7 => nofun
  all_goals first | assumption | exact fun _ => err_errs_ne _ _ _

theorem toks_of_withToks (g : PS → PS) (hg : ∀ (x : PS) (l : List Tok), g (x.withToks l) = (g x).withToks l) (s : PS) :
    (g s).toks = s.toks := by
  have := hg (s.withToks []) s.toks
  rw [withToks_withToks, withToks_self] at this
  rw [this]
  rfl

theorem arrayArgs_toks (ty : Bytes) (w : Nat) (ts : List Tok) (s : PS) : (arrayArgs ty w ts s).2.toks = s.toks :=
  toks_of_withToks (fun x => (arrayArgs ty w ts x).2) (fun x l => by rw [arrayArgs_withToks]) s

theorem asciiLoop_toks (mn mx : Int) (n : Nat) (ts : List Tok) (lit : Bytes) (s : PS) :
    (asciiLoop mn mx n ts lit s).2.toks = s.toks :=
  toks_of_withToks (fun x => (asciiLoop mn mx n ts lit x).2) (fun x l => by rw [asciiLoop_withToks]) s

theorem streamFunction_toks (s : PS) (t : Tok) : (streamFunction s t).2.2.toks = s.toks :=
  toks_of_withToks (fun x => (streamFunction x t).2.2) (fun x l => by rw [streamFunction_withToks]) s

/-- the factory `arrayItem` dispatches to, by type name -/
def dispatch (ty : Bytes) (w : Nat) (gs : List GoVal) : Option Tmpl :=
  if ty == [66] then mkBinary gs
  else if ty == [66, 79, 79, 76, 69, 65, 78] then mkBoolean gs
  else if ty.head? == some 70 then mkFloat w gs
  else if ty.head? == some 73 then mkInt w gs
  else mkUint w gs

theorem arrayItem_eq (ty : Bytes) (s : PS) :
    arrayItem ty s =
      let a := arrayArgs ty (widthOfType ty) (valueTokens (s.toks.length + 1) s).1 (valueTokens (s.toks.length + 1) s).2
      (a.1.elim .stop fun gs => ofFactory (dispatch ty (widthOfType ty) gs), a.2) := by
  unfold arrayItem dispatch
  dsimp only
  split <;> simp only [*, Option.elim]

theorem finishMsg_ok (name : Bytes) (st fn wb : Int) (dir : Bytes) (it : Tmpl) (s : PS) :
    finishMsg name st fn wb dir (.ok it) s =
      if s.peek.kind != .msgEnd then (none, s.err s.peek "expected message end character '.', found")
      else (some (mkMsg name st fn wb dir it), s.pop) := by
  unfold finishMsg
  dsimp only
  split
  · rfl
  · cases mkMsg name st fn wb dir it <;> rfl

theorem finishMsg_stop (name : Bytes) (st fn wb : Int) (dir : Bytes) (s : PS) :
    finishMsg name st fn wb dir .stop s = (none, s) := rfl

theorem finishMsg_panic (name : Bytes) (st fn wb : Int) (dir : Bytes) (s : PS) :
    finishMsg name st fn wb dir .panic s = (none, s) := rfl

/-- the state in front of the message text: behind stream/function, wait bit, direction and name -/
def preItem (s : PS) : PS :=
  let s0 := s.resetScope
  let sf := streamFunction s0.pop s0.peek
  (nameOf (directionOf (waitBitOf sf.2.1 sf.2.2).2).2).2

/-- the state in which `parseMessage` looks for the terminator -/
def preFinish (s : PS) : PS :=
  let s0 := s.resetScope
  let sf := streamFunction s0.pop s0.peek
  let wb := waitBitOf sf.2.1 sf.2.2
  let dir := directionOf wb.2
  let nm := nameOf dir.2
  (msgItem nm.2).2

/-- to be rewritten with before a lemma about `msgItem` is applied: left to the unifier,
`preFinish s =?= (msgItem _).2` unfolds the whole parser -/
theorem preFinish_eq (s : PS) : preFinish s = (msgItem (preItem s)).2 := rfl

theorem parseMessage_run (s : PS) :
    (s.resetScope.peek.kind ≠ .streamFunction ∧
      parseMessage s = (none, s.resetScope.err s.resetScope.peek "expected stream function, found")) ∨
    (s.resetScope.peek.kind = .streamFunction ∧ ∃ name st fn wb dir,
      parseMessage s = finishMsg name st fn wb dir (msgItem (preItem s)).1 (preFinish s)) := by
  unfold parseMessage
  dsimp only
  split
  · rename_i h
    exact Or.inl ⟨by simpa using h, rfl⟩
  · rename_i h
    exact Or.inr ⟨by simpa using h, _, _, _, _, _, rfl⟩

theorem parseToks_done (toks : List Tok) (ms : List Msg) (es ws : List Diag) (h : parseToks toks = .done ms es ws) :
    ∃ ms' s, parseLoop (toks.length + 1) { toks := toks } [] = some (ms', s) ∧ es = s.errs.reverse ∧ ws = s.warns.reverse ∧
      (s.errs = [] ∧ ms = ms' ∨ s.errs ≠ [] ∧ ms = []) := by
  unfold parseToks at h
  split at h
  · cases h
  · rename_i ms' s hl
    refine ⟨ms', s, hl, ?_⟩
    split at h
    · rename_i he
      cases h
      have he : s.errs = [] := by simpa using he
      exact ⟨by rw [he]; rfl, rfl, .inl ⟨he, rfl⟩⟩
    · rename_i he
      cases h
      exact ⟨rfl, rfl, .inr ⟨by simpa using he, rfl⟩⟩

theorem parseToks_accepted (T : List Tok) (ms : List Msg) (w : List Diag) (h : parseToks T = .done ms [] w) :
    ∃ sEnd, parseLoop (T.length + 1) { toks := T } [] = some (ms, sEnd) ∧ sEnd.errs = [] ∧ sEnd.warns.reverse = w := by
  obtain ⟨ms', s, hl, he, hw, hm⟩ := parseToks_done T ms [] w h
  have he : s.errs = [] := by simpa using he.symm
  rcases hm with ⟨_, rfl⟩ | ⟨hne, _⟩
  · exact ⟨s, hl, he, hw.symm⟩
  · exact absurd he hne

end Sml
end Secs
