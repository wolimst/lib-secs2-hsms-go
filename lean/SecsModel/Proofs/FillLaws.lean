/-
Laws of FillVariables at every nesting depth: a table that names no variable gives the template
back, ellipses or not (`Tmpl.fill_unbound`); on ellipsis-free templates filling in two steps is
filling once with the union `e1 ++ e2`, in which `e1` wins on a common key, refusals included
(`Tmpl.fill_compose`, `Tmpl.fill_compose_bind`); the variables that remain are the unbound ones in
their order (`Tmpl.fill_vars`). The fill-in values are closed: a value for an array slot is not itself a
variable name (`ClosedFor`, `closedOnT`).

Each law is proved at three levels: for one slot of an array node (`fillSlot`), for a node that is
not a list (the array kinds through `ArrayKind`, ASCII variables apart), and for trees by a mutual
induction over `fill` and the second phase `fillSlots`.
-/
import SecsModel.Model.Fill
import SecsModel.Proofs.FillLeaf
namespace Secs
open Sml

-- no ellipsis variable anywhere in the tree
mutual
def noEllT : Tmpl → Bool
  | .list xs => noEllS xs
  | _ => true

def noEllS : Slots → Bool
  | .nil => true
  | .item t r => noEllT t && noEllS r
  | .var n r => !isEllipsis n && noEllS r
end

-- patterns on the analysed argument only, the rest by `fun`: a pattern over all arguments builds a matcher over each
theorem findEll_noEll (ev : Env) : ∀ (xs : Slots) (i : Nat), noEllS xs = true → findEll ev xs i = none
  | .nil => fun _ _ => rfl
  | .item _ r => fun i h => by
    simp only [noEllS, Bool.and_eq_true] at h
    simp only [findEll]; exact findEll_noEll ev r (i + 1) h.2
  | .var n r => fun i h => by
    simp only [noEllS, Bool.and_eq_true, Bool.not_eq_true'] at h
    simp only [findEll, h.1, Bool.false_eq_true, if_false]; exact findEll_noEll ev r (i + 1) h.2

theorem hasUnfilled_noEll (ev : Env) : ∀ xs : Slots, noEllS xs = true → hasUnfilledEll ev xs = false
  | .nil => fun _ => rfl
  | .item _ r => fun h => by
    simp only [noEllS, Bool.and_eq_true] at h
    simp only [hasUnfilledEll]; exact hasUnfilled_noEll ev r h.2
  | .var n r => fun h => by
    simp only [noEllS, Bool.and_eq_true, Bool.not_eq_true'] at h
    simp [hasUnfilledEll, h.1, hasUnfilled_noEll ev r h.2]

mutual
theorem ellAnalysisT_noEll (ev : Env) : ∀ t : Tmpl, noEllT t = true → ellAnalysisT ev t = some (0, 0)
  | .list xs, h => by
    have hx : noEllS xs = true := by simpa [noEllT] using h
    simp [ellAnalysisT, findEll_noEll ev xs 0 hx, ellAnalysisS_noEll ev xs hx, hasUnfilled_noEll ev xs hx]
  | .ascii _, _ | .asciiVar _ _ _, _ | .binary _, _ | .boolean _, _ | .int _ _, _ | .uint _ _, _ | .float _ _, _
  | .empty, _ => rfl

theorem ellAnalysisS_noEll (ev : Env) : ∀ xs : Slots, noEllS xs = true → ellAnalysisS ev xs = some (0, 0)
  | .nil => fun _ => rfl
  | .var n r => fun h => by
    simp only [noEllS, Bool.and_eq_true] at h
    simp only [ellAnalysisS]; exact ellAnalysisS_noEll ev r h.2
  | .item t r => fun h => by
    simp only [noEllS, Bool.and_eq_true] at h
    simp [ellAnalysisS, ellAnalysisT_noEll ev t h.1, ellAnalysisS_noEll ev r h.2]
end

/-- a list none of whose ellipses is to be filled: FillVariables is the second phase only -/
theorem fill_list_unfilled (fuel : Nat) (xs : Slots) (env : Env)
    (h : ∃ r, ellAnalysisT (env.filter isEllKey) (.list xs) = some (0, r)) :
    fill (fuel + 1) (.list xs) env =
      (fillSlots (fun t => fill fuel t (env.filter (fun kv => !isEllKey kv))) (env.filter (fun kv => !isEllKey kv)) xs).bind mkList := by
  obtain ⟨r, ha⟩ := h
  simp only [fill, ha, Int.lt_irrefl, gt_iff_lt, if_false]
  cases fillSlots (fun t => fill fuel t (env.filter (fun kv => !isEllKey kv))) (env.filter (fun kv => !isEllKey kv)) xs <;> rfl

theorem fill_list_noEll (fuel : Nat) (xs : Slots) (env : Env) (h : noEllS xs = true) :
    fill (fuel + 1) (.list xs) env =
      (fillSlots (fun t => fill fuel t (env.filter (fun kv => !isEllKey kv))) (env.filter (fun kv => !isEllKey kv)) xs).bind mkList :=
  fill_list_unfilled fuel xs env ⟨0, ellAnalysisT_noEll (env.filter isEllKey) (.list xs) h⟩

theorem fill_leaf (fuel : Nat) (t : Tmpl) (e : Env) (h : t.isList = false) : fill (fuel + 1) t e = fillLeaf t e := by
  cases t <;> first | rfl | simp [Tmpl.isList] at h

theorem noEllT_leaf (t : Tmpl) (h : t.isList = false) : noEllT t = true := by
  cases t <;> first | rfl | simp [Tmpl.isList] at h

mutual
theorem noEllT_of_novars : ∀ t : Tmpl, t.vars = [] → noEllT t = true
  | .list xs, h => by simp only [noEllT]; exact noEllS_of_novars xs (by simpa [Tmpl.vars] using h)
  | .ascii _, _ | .asciiVar _ _ _, _ | .binary _, _ | .boolean _, _ | .int _ _, _ | .uint _ _, _ | .float _ _, _
  | .empty, _ => rfl

theorem noEllS_of_novars : ∀ xs : Slots, xs.vars = [] → noEllS xs = true
  | .nil => fun _ => rfl
  | .var n r => fun h => by simp [Slots.vars] at h
  | .item t r => fun h => by
    have ht : t.vars = [] ∧ r.vars = [] := by
      cases t <;> simp_all [Slots.vars, Tmpl.vars]
    simp [noEllS, noEllT_of_novars t ht.1, noEllS_of_novars r ht.2]
end

theorem get_append (e1 e2 : Env) (n : Name) :
    Env.get? (e1 ++ e2) n = (match Env.get? e1 n with | some v => some v | none => Env.get? e2 n) := by
  induction e1 with
  | nil => simp [Env.get?]
  | cons kv r ih =>
    obtain ⟨k, v⟩ := kv
    simp only [List.cons_append, Env.get?]
    split
    · rfl
    · exact ih

theorem get_filter_key (p : Name → Bool) (e : Env) (n : Name) :
    Env.get? (e.filter (fun kv => p kv.1)) n = if p n then e.get? n else none := by
  induction e with
  | nil => simp [Env.get?]
  | cons kv r ih =>
    obtain ⟨k, v⟩ := kv
    by_cases hkn : k = n
    · subst hkn; cases hk : p k <;> simp [hk, Env.get?, ih]
    · cases hk : p k <;> simp [hk, Env.get?, ih, hkn]

theorem get_filter_notEll (e : Env) (n : Name) :
    Env.get? (e.filter (fun kv => !isEllKey kv)) n = if isEllipsis n then none else e.get? n :=
  (get_filter_key (fun n => !isEllipsis n) e n).trans (by cases isEllipsis n <;> rfl)

theorem get_filter_none (env : Env) (n : Name) (h : env.get? n = none) :
    Env.get? (env.filter (fun kv => !isEllKey kv)) n = none := by
  rw [get_filter_notEll, h]; split <;> rfl

theorem list_fuel {xs : Slots} {fuel : Nat} (hd : (Tmpl.list xs).depth ≤ fuel) : ∃ k, fuel = k + 1 ∧ xs.depth ≤ k := by
  cases fuel with
  | zero => cases hd
  | succ k => exact ⟨k, rfl, Nat.le_of_succ_le_succ hd⟩

mutual
theorem fill_fuel_T : ∀ (t : Tmpl) (f1 f2 : Nat) (e : Env), noEllT t = true → t.depth ≤ f1 → t.depth ≤ f2 →
    fill (f1 + 1) t e = fill (f2 + 1) t e
  | .list xs => fun f1 f2 e hn h1 h2 => by
    obtain ⟨k1, rfl, hk1⟩ := list_fuel h1
    obtain ⟨k2, rfl, hk2⟩ := list_fuel h2
    rw [fill_list_noEll _ xs e hn, fill_list_noEll _ xs e hn, fill_fuel_S xs k1 k2 _ hn hk1 hk2]
  | .ascii _ | .asciiVar _ _ _ | .binary _ | .boolean _ | .int _ _ | .uint _ _ | .float _ _ | .empty =>
    fun _ _ _ _ _ _ => rfl

theorem fill_fuel_S : ∀ (xs : Slots) (f1 f2 : Nat) (o : Env), noEllS xs = true → xs.depth ≤ f1 → xs.depth ≤ f2 →
    fillSlots (fun t => fill (f1 + 1) t o) o xs = fillSlots (fun t => fill (f2 + 1) t o) o xs
  | .nil => fun _ _ _ _ _ _ => rfl
  | .var n r => fun f1 f2 o hn h1 h2 => by
    simp only [noEllS, Bool.and_eq_true] at hn
    simp only [fillSlots, fill_fuel_S r f1 f2 o hn.2 h1 h2]
  | .item t r => fun f1 f2 o hn h1 h2 => by
    simp only [noEllS, Bool.and_eq_true] at hn
    simp only [Slots.depth, Nat.max_le] at h1 h2
    simp only [fillSlots, fill_fuel_T t f1 f2 o hn.1 h1.1 h2.1, fill_fuel_S r f1 f2 o hn.2 h1.2 h2.2]
end

theorem fill_eq_Tmpl_fill (t : Tmpl) (f : Nat) (e : Env) (hn : noEllT t = true) (h : t.depth ≤ f) :
    Secs.fill (f + 1) t e = t.fill e := fill_fuel_T t f t.depth e hn h (Nat.le_refl _)

theorem findEll_unbound (ev : Env) : ∀ (xs : Slots) (i : Nat), (∀ v ∈ xs.vars, ev.get? v = none) → findEll ev xs i = none
  | .nil => fun _ _ => rfl
  | .item _ r => fun i h => findEll_unbound ev r (i + 1) fun v hv => h v (mem_vars_item (.inr hv))
  | .var n r => fun i h => by
    simp only [findEll, h n (List.mem_cons_self ..)]
    split <;> exact findEll_unbound ev r (i + 1) fun v hv => h v (List.mem_cons_of_mem _ hv)

mutual
/-- no ellipsis of the tree has a count in the table: nothing is to be filled -/
theorem ellAnalysisT_unbound (ev : Env) : ∀ t : Tmpl, (∀ v ∈ t.vars, ev.get? v = none) → ∃ r, ellAnalysisT ev t = some (0, r)
  | .list xs, h => by
    obtain ⟨r, hr⟩ := ellAnalysisS_unbound ev xs h
    exact ⟨(if hasUnfilledEll ev xs then 1 else 0) + r, by simp only [ellAnalysisT, findEll_unbound ev xs 0 h, hr, Option.map_some]⟩
  | .ascii _, _ | .asciiVar _ _ _, _ | .binary _, _ | .boolean _, _ | .int _ _, _ | .uint _ _, _ | .float _ _, _
  | .empty, _ => ⟨0, rfl⟩

theorem ellAnalysisS_unbound (ev : Env) : ∀ xs : Slots, (∀ v ∈ xs.vars, ev.get? v = none) → ∃ r, ellAnalysisS ev xs = some (0, r)
  | .nil => fun _ => ⟨0, rfl⟩
  | .var _ r => fun h => ellAnalysisS_unbound ev r fun v hv => h v (List.mem_cons_of_mem _ hv)
  | .item t r => fun h => by
    obtain ⟨a, ha⟩ := ellAnalysisT_unbound ev t fun v hv => h v (mem_vars_item (.inl hv))
    obtain ⟨b, hb⟩ := ellAnalysisS_unbound ev r fun v hv => h v (mem_vars_item (.inr hv))
    exact ⟨a + b, by simp only [ellAnalysisS, ha, hb, Int.add_zero]⟩
end

mutual
/-- **Unknown keys are ignored, at every depth**: a fill that binds no variable of a well-formed
template, ellipses included, returns the template itself. -/
theorem fill_unbound : ∀ (t : Tmpl) (fuel : Nat) (env : Env), t.depth ≤ fuel → t.wf = true →
    (∀ v ∈ t.vars, env.get? v = none) → fill (fuel + 1) t env = some t
  | .list xs => fun fuel env hd hw hu => by
    obtain ⟨k, rfl, hk⟩ := list_fuel hd
    have hev : ∀ v ∈ xs.vars, Env.get? (env.filter isEllKey) v = none := fun v hv => by
      rw [show env.filter isEllKey = env.filter (fun kv => isEllipsis kv.1) from rfl, get_filter_key, hu v hv]
      split <;> rfl
    rw [fill_list_unfilled (k + 1) xs env (ellAnalysisT_unbound _ (.list xs) hev),
      fillSlots_unbound xs k (env.filter (fun kv => !isEllKey kv)) hk (wf_list_iff.mp hw).2.1
        (fun v hv => get_filter_none env v (hu v hv))]
    exact rebuild_list xs hw
  | .ascii _ | .asciiVar _ _ _ | .binary _ | .boolean _ | .int _ _ | .uint _ _ | .float _ _ | .empty =>
    -- a term: a tactic block here is run once for each of the eight kinds
    fun fuel env _ _ hu => (fill_leaf _ _ _ rfl).trans (FillLeaf.fill_unknown_keys _ env rfl hu)

theorem fillSlots_unbound : ∀ (xs : Slots) (fuel : Nat) (ov : Env), xs.depth ≤ fuel → xs.wfAll = true →
    (∀ v ∈ xs.vars, ov.get? v = none) →
    fillSlots (fun t => fill (fuel + 1) t ov) ov xs = some (slotArgs xs)
  | .nil => fun _ _ _ _ _ => rfl
  | .var n r => fun fuel ov hd hw hu => by
    simp only [fillSlots, fillSlots_unbound r fuel ov hd hw (fun v hv => hu v (List.mem_cons_of_mem _ hv)),
      hu n (List.mem_cons_self ..), slotArgs, Option.map_some]
  | .item t r => fun fuel ov hd hw hu => by
    simp only [Slots.wfAll, Bool.and_eq_true] at hw
    simp only [Slots.depth, Nat.max_le] at hd
    simp only [fillSlots, fill_unbound t fuel ov hd.1 hw.1 (fun v hv => hu v (mem_vars_item (.inl hv))),
      fillSlots_unbound r fuel ov hd.2 hw.2 (fun v hv => hu v (mem_vars_item (.inr hv))), slotArgs]
end

theorem fillSlots_identity : ∀ (xs : Slots) (fuel : Nat) (ov : Env), xs.depth ≤ fuel → xs.wfAll = true → noEllS xs = true →
    (∀ v ∈ xs.vars, ov.get? v = none) →
    fillSlots (fun t => fill (fuel + 1) t ov) ov xs = some (slotArgs xs) :=
  fun xs fuel ov hd hw _ hu => fillSlots_unbound xs fuel ov hd hw hu

/-- ItemNode.FillVariables with a table that names none of the template's variables -/
theorem Tmpl.fill_unbound (t : Tmpl) (env : Env) (hw : t.wf = true) (hu : ∀ v ∈ t.vars, env.get? v = none) :
    t.fill env = some t :=
  Secs.fill_unbound t t.depth env (Nat.le_refl _) hw hu

theorem Tmpl.fill_unknown (t : Tmpl) (env : Env) (hw : t.wf = true) (hn : noEllT t = true)
    (hu : ∀ v ∈ t.vars, env.get? v = none) : t.fill env = some t :=
  t.fill_unbound env hw hu

/-- a table whose values are closed for the factory `conv`: a string value is a literal the
factory converts (binary "0b…"), never a variable name -/
def ClosedFor {α} (conv : GoVal → Option α) (e : Env) (names : List Name) : Prop :=
  ∀ n ∈ names, ∀ s, e.get? n = some (.str s) → (conv (.str s)).isSome = true

/-- what the factory makes of one slot of a node that is being filled -/
def fillSlot {α} (conv : GoVal → Option α) (canon : α → GoVal) (e : Env) (s : Slot α) : Option (Slot α) :=
  toSlot conv (FillLeaf.substSlot canon e s)

theorem mkSlots_fillArgs_cons {α} (conv : GoVal → Option α) (canon : α → GoVal) (e : Env) (s : Slot α)
    (r : List (Slot α)) : mkSlots conv (fillArgs canon e (s :: r)) =
      (fillSlot conv canon e s).bind fun s' => (mkSlots conv (fillArgs canon e r)).map (s' :: ·) := by
  rw [FillLeaf.fillArgs_eq_map, List.map_cons, mkSlots_cons, ← FillLeaf.fillArgs_eq_map]; rfl

theorem mkSlots_fillArgs_eq_some {α} {conv : GoVal → Option α} {canon : α → GoVal} {e : Env} {s : Slot α}
    {r ys : List (Slot α)} : mkSlots conv (fillArgs canon e (s :: r)) = some ys ↔
      ∃ s' r', fillSlot conv canon e s = some s' ∧ mkSlots conv (fillArgs canon e r) = some r' ∧ s' :: r' = ys := by
  simp only [mkSlots_fillArgs_cons, Option.bind_eq_some_iff, Option.map_eq_some_iff, exists_and_left]

section
variable {α : Type} {conv : GoVal → Option α} {canon : α → GoVal} {e : Env}

theorem fillSlot_val {a : α} (h : conv (canon a) = some a) : fillSlot conv canon e (.val a) = some (.val a) := by
  simp only [fillSlot, FillLeaf.substSlot, toSlot, h]

theorem fillSlot_unbound {n : Name} (hg : e.get? n = none) (h : conv (.str n) = none) :
    fillSlot conv canon e (.var n) = some (.var n) := by
  simp only [fillSlot, FillLeaf.substSlot, hg, Option.getD_none, toSlot, h]

/-- a bound variable takes the converted value; a value that does not convert is refused, since by
closedness it is not a string (which would be read as a variable name) -/
theorem fillSlot_bound {n : Name} {v : GoVal} (hg : e.get? n = some v)
    (hc : ∀ s, v = .str s → (conv v).isSome = true) : fillSlot conv canon e (.var n) = (conv v).map .val := by
  simp only [fillSlot, FillLeaf.substSlot, hg, Option.getD_some, toSlot]
  cases hv : conv v with
  | some a => rfl
  | none => cases v <;> first | rfl | simp [hv] at hc

theorem ClosedFor.of_cons {s : Slot α} {r : List (Slot α)} (hc : ClosedFor conv e (slotVars (s :: r))) :
    ClosedFor conv e (slotVars r) :=
  fun m hm => hc m (by cases s <;> simp [slotVars, hm])

/-- the three ways a slot comes out of an accepted fill; the hypotheses are those of the list laws
below at `s :: r`, of which the part about the head `s` is used -/
theorem fillSlot_eq_some {s s' : Slot α} {r : List (Slot α)} (hc : ClosedFor conv e (slotVars (s :: r)))
    (hx : ∀ a, Slot.val a ∈ s :: r → conv (canon a) = some a) (hn : ∀ n, Slot.var n ∈ s :: r → conv (.str n) = none)
    (h : fillSlot conv canon e s = some s') :
    (∃ a, s = .val a ∧ s' = .val a) ∨ (∃ n, s = .var n ∧ e.get? n = none ∧ s' = .var n) ∨
      (∃ n v a, s = .var n ∧ e.get? n = some v ∧ conv v = some a ∧ s' = .val a) := by
  cases s with
  | val a => rw [fillSlot_val (hx a (List.mem_cons_self ..))] at h; cases h; exact .inl ⟨a, rfl, rfl⟩
  | var n =>
    cases hg : e.get? n with
    | none => rw [fillSlot_unbound hg (hn n (List.mem_cons_self ..))] at h; cases h; exact .inr (.inl ⟨n, rfl, hg, rfl⟩)
    | some v =>
      rw [fillSlot_bound hg fun s hs => hs ▸ hc n (List.mem_cons_self ..) s (hs ▸ hg)] at h
      obtain ⟨a, ha, rfl⟩ := Option.map_eq_some_iff.mp h
      exact .inr (.inr ⟨n, v, a, rfl, hg, ha, rfl⟩)

theorem fillSlot_append_bound {e1 e2 : Env} {n : Name} {v : GoVal} (hg : e1.get? n = some v) :
    fillSlot conv canon (e1 ++ e2) (.var n) = fillSlot conv canon e1 (.var n) := by
  simp only [fillSlot, FillLeaf.substSlot, get_append, hg]

theorem fillSlot_append_unbound {e1 e2 : Env} {n : Name} (hg : e1.get? n = none) :
    fillSlot conv canon (e1 ++ e2) (.var n) = fillSlot conv canon e2 (.var n) := by
  simp only [fillSlot, FillLeaf.substSlot, get_append, hg]

end

/-- **Array factories compose.** If the first fill is accepted with slots `ys`, then filling
`ys` with `e2` hands the factory a list it treats exactly like the one-step list. -/
theorem mkSlots_compose {α} (conv : GoVal → Option α) (canon : α → GoVal) (e1 e2 : Env)
    :
    ∀ (xs : List (Slot α)) (ys : List (Slot α)), ClosedFor conv e1 (slotVars xs) →
      (∀ a, Slot.val a ∈ xs → conv (canon a) = some a) →
      (∀ a, Slot.val a ∈ ys → conv (canon a) = some a) →
      (∀ n, Slot.var n ∈ xs → conv (.str n) = none) →
      mkSlots conv (fillArgs canon e1 xs) = some ys →
      mkSlots conv (fillArgs canon e2 ys) = mkSlots conv (fillArgs canon (e1 ++ e2) xs)
  | [] => fun ys _ _ _ _ h => by cases h; rfl
  | s :: r => fun ys hc hx hy hn h => by
    obtain ⟨s', r', hs, hr, rfl⟩ := mkSlots_fillArgs_eq_some.mp h
    rw [mkSlots_fillArgs_cons, mkSlots_fillArgs_cons, mkSlots_compose conv canon e1 e2 r r' hc.of_cons
      (fun a h => hx a (List.mem_cons_of_mem _ h)) (fun a h => hy a (List.mem_cons_of_mem _ h))
      (fun n h => hn n (List.mem_cons_of_mem _ h)) hr]
    congr 1
    rcases fillSlot_eq_some hc hx hn hs with ⟨a, rfl, rfl⟩ | ⟨n, rfl, hg, rfl⟩ | ⟨n, v, a, rfl, hg, ha, rfl⟩
    · rw [fillSlot_val (hx a (List.mem_cons_self ..)), fillSlot_val (hx a (List.mem_cons_self ..))]
    · rw [fillSlot_append_unbound hg]
    · rw [fillSlot_append_bound hg, hs, fillSlot_val (hy a (List.mem_cons_self ..))]

theorem anyBound_append {α} (e1 e2 : Env) (xs : List (Slot α)) :
    anyBound (e1 ++ e2) xs = (anyBound e1 xs || anyBound e2 xs) := by
  simp only [anyBound]
  induction slotVars xs with
  | nil => rfl
  | cons n r ih =>
    simp only [List.any_cons, ih]
    rw [get_append]
    cases h1 : Env.get? e1 n <;> cases h2 : Env.get? e2 n <;> simp [Bool.or_comm]

theorem fillArgs_append_unbound {α} (canon : α → GoVal) (e1 e2 : Env) (xs : List (Slot α))
    (h : anyBound e1 xs = false) : fillArgs canon (e1 ++ e2) xs = fillArgs canon e2 xs := by
  refine fillArgs_congr canon xs fun n hn => ?_
  rw [get_append, FillLeaf.anyBound_eq_false.mp h n hn]

def unboundIn (e : Env) (v : Name) : Bool := (e.get? v).isNone

theorem mkSlots_vars {α} (conv : GoVal → Option α) (canon : α → GoVal) (e : Env) :
    ∀ (xs ys : List (Slot α)), ClosedFor conv e (slotVars xs) →
      (∀ a, Slot.val a ∈ xs → conv (canon a) = some a) →
      (∀ n, Slot.var n ∈ xs → conv (.str n) = none) →
      mkSlots conv (fillArgs canon e xs) = some ys →
      slotVars ys = (slotVars xs).filter (unboundIn e)
  | [] => fun ys _ _ _ h => by cases h; rfl
  | s :: r => fun ys hc hx hn h => by
    obtain ⟨s', r', hs, hr, rfl⟩ := mkSlots_fillArgs_eq_some.mp h
    have ih := mkSlots_vars conv canon e r r' hc.of_cons (fun a h => hx a (List.mem_cons_of_mem _ h))
      (fun n h => hn n (List.mem_cons_of_mem _ h)) hr
    rcases fillSlot_eq_some hc hx hn hs with ⟨a, rfl, rfl⟩ | ⟨n, rfl, hg, rfl⟩ | ⟨n, v, a, rfl, hg, ha, rfl⟩
    · exact ih
    · simp [slotVars, unboundIn, hg, ih]
    · simp [slotVars, unboundIn, hg, ih]

/-- slot lists that agree wherever the first one holds a value -/
def Refines {α} : List (Slot α) → List (Slot α) → Prop
  | [], [] => True
  | .val a :: r1, s :: r2 => s = .val a ∧ Refines r1 r2
  | .var _ :: r1, _ :: r2 => Refines r1 r2
  | _, _ => False

theorem mkSlots_none_mono {α} (conv : GoVal → Option α) (canon : α → GoVal) (e1 e2 : Env) :
    ∀ (xs : List (Slot α)), mkSlots conv (fillArgs canon e1 xs) = none →
      mkSlots conv (fillArgs canon (e1 ++ e2) xs) = none
  | [] => fun h => by cases h
  | s :: r => fun h => by
    rw [mkSlots_fillArgs_cons] at h ⊢
    -- the head is refused by a value of `e1`, which the union still holds, or the tail is refused
    cases hs : fillSlot conv canon e1 s with
    | none =>
      cases s with
      | val a => rw [show fillSlot conv canon (e1 ++ e2) (.val a) = fillSlot conv canon e1 (.val a) from rfl, hs]; rfl
      | var n =>
        cases hg : e1.get? n with
        | none =>
          simp only [fillSlot, FillLeaf.substSlot, hg, Option.getD_none, toSlot] at hs
          split at hs <;> cases hs
        | some v => rw [fillSlot_append_bound hg, hs]; rfl
    | some s' =>
      rw [hs, Option.bind_some, Option.map_eq_none_iff] at h
      rw [mkSlots_none_mono conv canon e1 e2 r h]
      cases fillSlot conv canon (e1 ++ e2) s <;> rfl

theorem mkSlots_refines {α} (conv : GoVal → Option α) (canon : α → GoVal) (e1 e2 : Env) :
    ∀ (xs ys1 ysC : List (Slot α)), ClosedFor conv e1 (slotVars xs) →
      (∀ a, Slot.val a ∈ xs → conv (canon a) = some a) →
      (∀ n, Slot.var n ∈ xs → conv (.str n) = none) →
      mkSlots conv (fillArgs canon e1 xs) = some ys1 →
      mkSlots conv (fillArgs canon (e1 ++ e2) xs) = some ysC → Refines ys1 ysC
  | [] => fun ys1 ysC _ _ _ h1 h2 => by cases h1; cases h2; trivial
  | s :: r => fun ys1 ysC hc hx hn h1 h2 => by
    obtain ⟨s1, r1, hs1, hr1, rfl⟩ := mkSlots_fillArgs_eq_some.mp h1
    obtain ⟨sC, rC, hsC, hrC, rfl⟩ := mkSlots_fillArgs_eq_some.mp h2
    have ih := mkSlots_refines conv canon e1 e2 r r1 rC hc.of_cons (fun a h => hx a (List.mem_cons_of_mem _ h))
      (fun n h => hn n (List.mem_cons_of_mem _ h)) hr1 hrC
    rcases fillSlot_eq_some hc hx hn hs1 with ⟨a, rfl, rfl⟩ | ⟨n, rfl, hg, rfl⟩ | ⟨n, v, a, rfl, hg, ha, rfl⟩
    · rw [show fillSlot conv canon (e1 ++ e2) (.val a) = fillSlot conv canon e1 (.val a) from rfl, hs1] at hsC
      cases hsC; exact ⟨rfl, ih⟩
    · -- whatever the combined table puts here, the first list holds a variable
      exact ih
    · rw [fillSlot_append_bound hg, hs1] at hsC
      cases hsC; exact ⟨rfl, ih⟩

theorem Refines.val_mem {α} : ∀ {ys1 ysC : List (Slot α)}, Refines ys1 ysC → ∀ a, Slot.val a ∈ ys1 → Slot.val a ∈ ysC := by
  intro ys1 ysC hr a h
  fun_induction Refines ys1 ysC
  · cases h
  · rename_i ih
    rcases List.mem_cons.mp h with h | h
    · exact h ▸ hr.1 ▸ List.mem_cons_self ..
    · exact List.mem_cons_of_mem _ (ih hr.2 h)
  · rename_i ih
    rcases List.mem_cons.mp h with h | h
    · cases h
    · exact List.mem_cons_of_mem _ (ih hr h)
  · exact hr.elim

/-- the checks that pass on the one-step list pass on the list of an accepted first step: its values
stand in the one-step list, its names are names of the template that the first table leaves unbound -/
theorem slotsOk_of_refines {α} (p : α → Bool) (xs ys1 ysC : List (Slot α)) (e1 : Env)
    (hx : slotsOk p xs = true) (hv : slotVars ys1 = (slotVars xs).filter (unboundIn e1))
    (hr : Refines ys1 ysC) (hC : slotsOk p ysC = true) : slotsOk p ys1 = true := by
  obtain ⟨_, hxn, hxd⟩ := (slotsOk_iff p xs).mp hx
  refine (slotsOk_iff p ys1).mpr ⟨fun a ha => ((slotsOk_iff p ysC).mp hC).1 a (hr.val_mem a ha), fun n hn => ?_, ?_⟩
  · exact hxn n ((mem_slotVars n xs).mp (List.mem_filter.mp (hv ▸ (mem_slotVars n ys1).mpr hn)).1)
  · rw [hv]; exact nodupNames_filter _ _ hxd

namespace ArrayKind
variable {α β : Type} (K : ArrayKind α β) {xs : List (Slot α)}

theorem compose (e1 e2 : Env) (t1 : Tmpl) (hw : (K.node xs).wf = true) (hc : ClosedFor K.conv e1 (slotVars xs))
    (h : fillLeaf (K.node xs) e1 = some t1) :
    t1.wf = true ∧ t1.isList = false ∧ fillLeaf t1 e2 = fillLeaf (K.node xs) (e1 ++ e2) := by
  rw [K.fillLeaf_eq e1 hw] at h
  obtain ⟨ys, hys, hwf, rfl⟩ := K.mk_eq_some.mp h
  refine ⟨hwf, K.isList_node ys, ?_⟩
  rw [K.fillLeaf_eq e2 hwf, K.fillLeaf_eq _ hw]
  exact K.mk_congr (mkSlots_compose K.conv K.canon e1 e2 _ _ (by rw [K.slotVars_lift]; exact hc) (K.vals_lift xs) (K.vals_lift ys)
    (K.names_lift hw) hys)

theorem vars (e : Env) (t1 : Tmpl) (hw : (K.node xs).wf = true) (hc : ClosedFor K.conv e (slotVars xs))
    (h : fillLeaf (K.node xs) e = some t1) : t1.vars = (slotVars xs).filter (unboundIn e) ∧ t1 ≠ .empty := by
  rw [K.fillLeaf_eq e hw] at h
  obtain ⟨ys, hys, _, rfl⟩ := K.mk_eq_some.mp h
  have := mkSlots_vars K.conv K.canon e _ _ (by rw [K.slotVars_lift]; exact hc) (K.vals_lift xs) (K.names_lift hw) hys
  rw [K.slotVars_lift, K.slotVars_lift] at this
  exact ⟨(K.vars_node ys).trans this, K.node_ne_empty ys⟩

theorem refines_lift : ∀ (l : List (Slot β)) (zs : List (Slot α)), Refines l (zs.map K.lift) →
    ∃ ys, l = ys.map K.lift ∧ Refines ys zs
  | [], [] => fun _ => ⟨[], rfl, trivial⟩
  | [], _ :: _ | .val _ :: _, [] | .var _ :: _, [] => fun h => h.elim
  | .val b :: r, z :: zs => fun h => by
    obtain ⟨hz, hr⟩ := h
    obtain ⟨ys, rfl, hys⟩ := refines_lift r zs hr
    cases z with
    | var n => rw [K.lift_var] at hz; cases hz
    | val a => exact ⟨.val a :: ys, by rw [List.map_cons, hz], rfl, hys⟩
  | .var n :: r, z :: zs => fun h => by
    obtain ⟨ys, rfl, hys⟩ := refines_lift r zs h
    exact ⟨.var n :: ys, by rw [List.map_cons, K.lift_var], hys⟩

theorem refuse (e1 e2 : Env) (hw : (K.node xs).wf = true) (hc : ClosedFor K.conv e1 (slotVars xs))
    (h : fillLeaf (K.node xs) e1 = none) : fillLeaf (K.node xs) (e1 ++ e2) = none := by
  rw [K.fillLeaf_eq _ hw] at h ⊢
  refine Option.eq_none_iff_forall_ne_some.mpr fun t ht => ?_
  obtain ⟨ysC, h2, hwC, rfl⟩ := K.mk_eq_some.mp ht
  have hc' : ClosedFor K.conv e1 (slotVars (xs.map K.lift)) := by rw [K.slotVars_lift]; exact hc
  cases h1 : mkSlots K.conv (fillArgs K.canon e1 (xs.map K.lift)) with
  | none => rw [mkSlots_none_mono K.conv K.canon e1 e2 _ h1] at h2; cases h2
  | some l =>
    obtain ⟨ys1, rfl, hr⟩ := K.refines_lift l ysC
      (mkSlots_refines K.conv K.canon e1 e2 _ _ _ hc' (K.vals_lift xs) (K.names_lift hw) h1 h2)
    have hv := mkSlots_vars K.conv K.canon e1 _ _ hc' (K.vals_lift xs) (K.names_lift hw) h1
    rw [K.slotVars_lift, K.slotVars_lift] at hv
    have hl1 := mkSlots_length _ _ _ h1
    rw [fillArgs_length, List.length_map, List.length_map] at hl1
    -- the first step passes the checks that the one-step list passes, so it is not refused
    rw [K.wf_node, Bool.and_eq_true] at hw hwC
    have hw1 : (K.node ys1).wf = true := by
      rw [K.wf_node, hl1, hw.1, Bool.true_and]
      exact slotsOk_of_refines K.inRange xs ys1 ysC e1 hw.2 hv hr hwC.2
    rw [K.mk_eq_some.mpr ⟨ys1, h1, hw1, rfl⟩] at h
    cases h

end ArrayKind

-- no float node anywhere (the float factory's re-reading of a stored 4-byte value is not covered);
-- the same function as `Tmpl.floatFree` of FillWF; the two are used in disjoint files and nothing relates them
mutual
def noFloatT : Tmpl → Bool
  | .list xs => noFloatS xs
  | .float _ _ => false
  | _ => true

def noFloatS : Slots → Bool
  | .nil => true
  | .item t r => noFloatT t && noFloatS r
  | .var _ r => noFloatS r
end

-- the table's values are closed where this template uses them: an array slot gets no variable
-- name, a list slot gets a well-formed item without variables (not the empty placeholder item)
mutual
def closedOnT (e : Env) : Tmpl → Prop
  | .list xs => closedOnS e xs
  | .binary xs => ClosedFor convBinary e (slotVars xs)
  | .boolean xs => ClosedFor convBool e (slotVars xs)
  | .int _ xs => ClosedFor convInt e (slotVars xs)
  | .uint _ xs => ClosedFor convUint e (slotVars xs)
  | _ => True

def closedOnS (e : Env) : Slots → Prop
  | .nil => True
  | .item t r => closedOnT e t ∧ closedOnS e r
  | .var n r =>
    (∀ v, e.get? n = some v → (∀ s, v ≠ .str s) ∧ (∀ t', v = .item t' → t'.wf = true ∧ t'.vars = [] ∧ t' ≠ .empty)) ∧ closedOnS e r
end

theorem closedFor_filter {α} (conv : GoVal → Option α) (e : Env) (names : List Name)
    (h : ClosedFor conv e names) : ClosedFor conv (e.filter (fun kv => !isEllKey kv)) names := by
  intro n hn s hs
  rw [get_filter_notEll] at hs
  split at hs
  · cases hs
  · exact h n hn s hs

mutual
theorem closedOnT_filter (e : Env) : ∀ t : Tmpl, closedOnT e t → closedOnT (e.filter (fun kv => !isEllKey kv)) t
  | .list xs => fun h => closedOnS_filter e xs h
  | .binary _ | .boolean _ | .int _ _ | .uint _ _ => fun h => closedFor_filter _ e _ h
  | .ascii _ | .asciiVar _ _ _ | .float _ _ | .empty => fun _ => trivial

theorem closedOnS_filter (e : Env) : ∀ xs : Slots, closedOnS e xs → closedOnS (e.filter (fun kv => !isEllKey kv)) xs
  | .nil => fun _ => trivial
  | .item t r => fun h => ⟨closedOnT_filter e t h.1, closedOnS_filter e r h.2⟩
  | .var n r => fun h => by
    refine ⟨fun v hv => ?_, closedOnS_filter e r h.2⟩
    rw [get_filter_notEll] at hv
    split at hv
    · cases hv
    · exact h.1 v hv
end

theorem leaf_names_valid : ∀ t : Tmpl, t.isList = false → t.wf = true → ∀ v ∈ t.vars, isValidVarName v = true
  | .list _, hl, _, _, _ => by cases hl
  | .ascii _, _, _, _, hv | .empty, _, _, _, hv => by cases hv
  | .asciiVar n _ _, _, hw, v, hv => by
    simp only [Tmpl.vars, List.mem_singleton] at hv
    simp only [Tmpl.wf, Bool.and_eq_true] at hw
    exact hv ▸ hw.1.1.1
  | .binary xs, _, hw, v, hv | .boolean xs, _, hw, v, hv | .int _ xs, _, hw, v, hv | .uint _ xs, _, hw, v, hv
  | .float _ xs, _, hw, v, hv => by
    simp only [Tmpl.wf, Bool.and_eq_true] at hw
    exact (slotsOk_mem _ _ hw.2).2 v ((mem_slotVars v xs).mp hv)

theorem fillLeaf_asciiVar_some {n : Name} {mn mx : Int} {e : Env} {t1 : Tmpl} :
    fillLeaf (.asciiVar n mn mx) e = some t1 →
      (e.get? n = none ∧ t1 = .asciiVar n mn mx) ∨ ∃ s, e.get? n = some (.str s) ∧ t1 = .ascii s := by
  simp only [fillLeaf]
  split
  · intro h; exact .inl ⟨‹_›, (Option.some.inj h).symm⟩
  · intro h
    split at h
    · cases h
    · split at h
      · cases h
      · obtain ⟨_, rfl⟩ := mkAscii_eq_some.mp h
        exact .inr ⟨_, ‹_›, rfl⟩
  · intro h; cases h

theorem compose_asciiVar (n : Name) (mn mx : Int) (e1 e2 : Env) (t1 : Tmpl)
    (h : fillLeaf (.asciiVar n mn mx) e1 = some t1) :
    t1.isList = false ∧ fillLeaf t1 e2 = fillLeaf (.asciiVar n mn mx) (e1 ++ e2) := by
  rcases fillLeaf_asciiVar_some h with ⟨h1, rfl⟩ | ⟨s, h1, rfl⟩
  · exact ⟨rfl, by simp only [fillLeaf, get_append, h1]⟩
  · refine ⟨rfl, (Eq.trans ?_ h).symm⟩
    simp only [fillLeaf, get_append, h1]

theorem vars_asciiVar (n : Name) (mn mx : Int) (e : Env) (t1 : Tmpl) (h : fillLeaf (.asciiVar n mn mx) e = some t1) :
    t1.vars = [n].filter (unboundIn e) ∧ t1 ≠ .empty := by
  rcases fillLeaf_asciiVar_some h with ⟨h1, rfl⟩ | ⟨s, h1, rfl⟩ <;> simp [Tmpl.vars, unboundIn, h1]

theorem refuse_asciiVar (n : Name) (mn mx : Int) (e1 e2 : Env) (h : fillLeaf (.asciiVar n mn mx) e1 = none) :
    fillLeaf (.asciiVar n mn mx) (e1 ++ e2) = none := by
  simp only [fillLeaf] at h ⊢
  rw [get_append]
  cases h1 : Env.get? e1 n with
  | none => simp [h1] at h
  | some v => simp only [h1] at h ⊢; exact h

theorem leaf_compose : ∀ (t : Tmpl) (e1 e2 : Env) (t1 : Tmpl), t.wf = true → noFloatT t = true → closedOnT e1 t →
    fillLeaf t e1 = some t1 → t1.isList = false ∧ fillLeaf t1 e2 = fillLeaf t (e1 ++ e2)
  | .list _ => fun _ _ _ _ _ _ h => by cases h
  | .float _ _ => fun _ _ _ _ hf _ _ => by cases hf
  | .ascii _ | .empty => fun _ _ _ _ _ _ h => by cases h; exact ⟨rfl, rfl⟩
  | .asciiVar n mn mx => fun e1 e2 t1 _ _ _ h => compose_asciiVar n mn mx e1 e2 t1 h
  | .binary _ => fun e1 e2 t1 hw _ hc h => (binKind.compose e1 e2 t1 hw hc h).2
  | .boolean _ => fun e1 e2 t1 hw _ hc h => (boolKind.compose e1 e2 t1 hw hc h).2
  | .int w _ => fun e1 e2 t1 hw _ hc h => ((intKind w).compose e1 e2 t1 hw hc h).2
  | .uint w _ => fun e1 e2 t1 hw _ hc h => ((uintKind w).compose e1 e2 t1 hw hc h).2

theorem leaf_vars : ∀ (t : Tmpl) (e : Env) (t1 : Tmpl), t.wf = true → noFloatT t = true → closedOnT e t →
    fillLeaf t e = some t1 → t1.vars = t.vars.filter (unboundIn e) ∧ (t ≠ .empty → t1 ≠ .empty)
  | .list _ => fun _ _ _ _ _ h => by cases h
  | .float _ _ => fun _ _ _ hf _ _ => by cases hf
  | .ascii _ | .empty => fun _ _ _ _ _ h => by cases h; exact ⟨rfl, id⟩
  | .asciiVar n mn mx => fun e t1 _ _ _ h => (vars_asciiVar n mn mx e t1 h).imp_right fun b _ => b
  | .binary _ => fun e t1 hw _ hc h => (binKind.vars e t1 hw hc h).imp_right fun b _ => b
  | .boolean _ => fun e t1 hw _ hc h => (boolKind.vars e t1 hw hc h).imp_right fun b _ => b
  | .int w _ => fun e t1 hw _ hc h => ((intKind w).vars e t1 hw hc h).imp_right fun b _ => b
  | .uint w _ => fun e t1 hw _ hc h => ((uintKind w).vars e t1 hw hc h).imp_right fun b _ => b

theorem leaf_refuse : ∀ (t : Tmpl) (e1 e2 : Env), t.wf = true → noFloatT t = true → closedOnT e1 t →
    fillLeaf t e1 = none → fillLeaf t (e1 ++ e2) = none
  | .list _ => fun _ _ _ _ _ _ => rfl
  | .float _ _ => fun _ _ _ hf _ _ => by cases hf
  | .ascii _ | .empty => fun _ _ _ _ _ h => by cases h
  | .asciiVar n mn mx => fun e1 e2 _ _ _ h => refuse_asciiVar n mn mx e1 e2 h
  | .binary _ => fun e1 e2 hw _ hc h => binKind.refuse e1 e2 hw hc h
  | .boolean _ => fun e1 e2 hw _ hc h => boolKind.refuse e1 e2 hw hc h
  | .int w _ => fun e1 e2 hw _ hc h => (intKind w).refuse e1 e2 hw hc h
  | .uint w _ => fun e1 e2 hw _ hc h => (uintKind w).refuse e1 e2 hw hc h

theorem fillSlots_var_eq_some {child : Tmpl → Option Tmpl} {o : Env} {n : Name} {r : Slots} {a : List GoVal} :
    fillSlots child o (.var n r) = some a ↔
      ∃ a', fillSlots child o r = some a' ∧ (match o.get? n with | some v => v | none => .str n) :: a' = a := by
  simp only [fillSlots, Option.map_eq_some_iff]
  exact Iff.rfl

theorem fillSlots_item_eq_some {child : Tmpl → Option Tmpl} {o : Env} {t : Tmpl} {r : Slots} {a : List GoVal} :
    fillSlots child o (.item t r) = some a ↔
      ∃ t1 a', child t = some t1 ∧ fillSlots child o r = some a' ∧ .item t1 :: a' = a := by
  simp only [fillSlots]
  cases child t <;> cases fillSlots child o r <;> simp

theorem fillSlots_length (child : Tmpl → Option Tmpl) (o : Env) : ∀ (xs : Slots) (a : List GoVal),
    fillSlots child o xs = some a → a.length = xs.len
  | .nil => fun a h => by cases h; rfl
  | .var n r => fun a h => by
    obtain ⟨a', hr, rfl⟩ := fillSlots_var_eq_some.mp h
    simp [Slots.len, fillSlots_length child o r a' hr]
  | .item t r => fun a h => by
    obtain ⟨t1, a', _, hr, rfl⟩ := fillSlots_item_eq_some.mp h
    simp [Slots.len, fillSlots_length child o r a' hr]

/-- an accepted second phase at an own variable of the list: the rest is accepted, and the variable
stays, or is replaced by the item bound to it, or is renamed by a bound string -/
theorem fillSlots_var_some {child : Tmpl → Option Tmpl} {o : Env} {n : Name} {r : Slots} {a : List GoVal} {ys : Slots}
    (h : fillSlots child o (.var n r) = some a) (hm : mkListSlots a = some ys) :
    ∃ a' ys', fillSlots child o r = some a' ∧ mkListSlots a' = some ys' ∧
      ((o.get? n = none ∧ ys = .var n ys') ∨ (∃ t', o.get? n = some (.item t') ∧ ys = .item t' ys') ∨
        (∃ m, o.get? n = some (.str m) ∧ ys = .var m ys')) := by
  obtain ⟨a', hr, rfl⟩ := fillSlots_var_eq_some.mp h
  cases hg : o.get? n with
  | none =>
    simp only [hg, mkListSlots, Option.map_eq_some_iff] at hm
    obtain ⟨ys', hm', rfl⟩ := hm
    exact ⟨a', ys', hr, hm', .inl ⟨rfl, rfl⟩⟩
  | some v =>
    cases v <;> simp only [hg, mkListSlots, Option.map_eq_some_iff, reduceCtorEq] at hm
    all_goals obtain ⟨ys', hm', rfl⟩ := hm
    · exact ⟨a', ys', hr, hm', .inr (.inr ⟨_, rfl, rfl⟩)⟩
    · exact ⟨a', ys', hr, hm', .inr (.inl ⟨_, rfl, rfl⟩)⟩

theorem fillSlots_item_some {child : Tmpl → Option Tmpl} {o : Env} {t : Tmpl} {r : Slots} {a : List GoVal} {ys : Slots}
    (h : fillSlots child o (.item t r) = some a) (hm : mkListSlots a = some ys) :
    ∃ t1 a' ys', child t = some t1 ∧ fillSlots child o r = some a' ∧ mkListSlots a' = some ys' ∧ ys = .item t1 ys' := by
  obtain ⟨t1, a', ht, hr, rfl⟩ := fillSlots_item_eq_some.mp h
  simp only [mkListSlots, Option.map_eq_some_iff] at hm
  obtain ⟨ys', hm', rfl⟩ := hm
  exact ⟨t1, a', ys', ht, hr, hm', rfl⟩

theorem mkListSlots_tail_none (g : GoVal) (a : List GoVal) (h : mkListSlots a = none) : mkListSlots (g :: a) = none := by
  cases g <;> simp [mkListSlots, h]

theorem listSlots_none_transfer (c1 cC : Tmpl → Option Tmpl) (o1 o2 : Env) :
    ∀ (xs : Slots) (a1 aC : List GoVal), fillSlots c1 o1 xs = some a1 → fillSlots cC (o1 ++ o2) xs = some aC →
      mkListSlots a1 = none → mkListSlots aC = none
  | .nil => fun a1 aC h1 _ hm => by cases h1; cases hm
  | .var n r => fun a1 aC h1 h2 hm => by
    obtain ⟨a1', hr1, rfl⟩ := fillSlots_var_eq_some.mp h1
    obtain ⟨aC', hr2, rfl⟩ := fillSlots_var_eq_some.mp h2
    have ih := listSlots_none_transfer c1 cC o1 o2 r a1' aC' hr1 hr2
    rw [get_append]
    cases hr : mkListSlots a1' with
    | none => exact mkListSlots_tail_none _ _ (ih hr)
    | some y =>
      -- the rest converts: the list factory refuses the value bound in `o1`, which the union still holds
      cases hg : Env.get? o1 n with
      | none => simp [hg, mkListSlots, hr] at hm
      | some v => cases v <;> simp only [hg, mkListSlots, hr] at hm ⊢ <;> first | rfl | cases hm
  | .item t r => fun a1 aC h1 h2 hm => by
    obtain ⟨t1, a1', _, hr1, rfl⟩ := fillSlots_item_eq_some.mp h1
    obtain ⟨t2, aC', _, hr2, rfl⟩ := fillSlots_item_eq_some.mp h2
    refine mkListSlots_tail_none _ _ (listSlots_none_transfer c1 cC o1 o2 r a1' aC' hr1 hr2 ?_)
    cases hr : mkListSlots a1' with
    | none => rfl
    | some y => simp [mkListSlots, hr] at hm

theorem listOwnOk_after_fill (c1 : Tmpl → Option Tmpl) (o1 : Env) :
    ∀ (xs : Slots) (pos : Nat) (e : Bool) (a1 : List GoVal) (ys1 : Slots), noEllS xs = true → closedOnS o1 xs →
      fillSlots c1 o1 xs = some a1 → mkListSlots a1 = some ys1 → listOwnOk xs pos e = true → listOwnOk ys1 pos e = true
  | .nil => fun pos e a1 ys1 _ _ h1 hm _ => by cases h1; cases hm; rfl
  | .var n r => fun pos e a1 ys1 hn hc h1 hm hok => by
    simp only [noEllS, Bool.and_eq_true, Bool.not_eq_true'] at hn
    obtain ⟨a1', ys', hr, hm', hcase⟩ := fillSlots_var_some h1 hm
    have hvalid : isValidVarName n = true ∧ listOwnOk r (pos + 1) e = true := by
      simp only [listOwnOk] at hok
      split at hok
      · exact ⟨‹_›, hok⟩
      · simp [hn.1] at hok
    have ih := listOwnOk_after_fill c1 o1 r (pos + 1) e a1' ys' hn.2 hc.2 hr hm' hvalid.2
    rcases hcase with ⟨_, rfl⟩ | ⟨t', _, rfl⟩ | ⟨m, h1, rfl⟩
    · simp only [listOwnOk, hvalid.1, if_true]; exact ih
    · exact ih
    · exact absurd rfl ((hc.1 _ h1).1 m)
  | .item t r => fun pos e a1 ys1 hn hc h1 hm hok => by
    simp only [noEllS, Bool.and_eq_true] at hn
    obtain ⟨t1, a1', ys', _, hr, hm', rfl⟩ := fillSlots_item_some h1 hm
    exact listOwnOk_after_fill c1 o1 r (pos + 1) e a1' ys' hn.2 hc.2 hr hm' hok

/-- `compose_T` at a node that is not a list; stated apart so that the eight kinds share one proof -/
theorem compose_leaf (t : Tmpl) (hl : t.isList = false) (fuel : Nat) (e1 e2 : Env) (t1 : Tmpl) (hw : t.wf = true)
    (hf : noFloatT t = true) (hc : closedOnT e1 t) (h : fill (fuel + 1) t e1 = some t1) :
    noEllT t1 = true ∧ fill (fuel + 1) t1 e2 = fill (fuel + 1) t (e1 ++ e2) := by
  rw [fill_leaf _ _ _ hl] at h ⊢
  obtain ⟨hl1, heq⟩ := leaf_compose t e1 e2 t1 hw hf hc h
  exact ⟨noEllT_leaf t1 hl1, (fill_leaf _ _ _ hl1).trans heq⟩

mutual
/-- **Filling in two steps is filling once with the union** (every nesting depth): if the first
fill is accepted, the second fill of its result is the one-step fill of the template with
`e1 ++ e2` — the same item, or the same refusal. -/
theorem compose_T : ∀ (t : Tmpl) (fuel : Nat) (e1 e2 : Env) (t1 : Tmpl),
    t.wf = true → noEllT t = true → noFloatT t = true → closedOnT e1 t →
    t.depth ≤ fuel → t1.depth ≤ fuel → fill (fuel + 1) t e1 = some t1 →
    noEllT t1 = true ∧ fill (fuel + 1) t1 e2 = fill (fuel + 1) t (e1 ++ e2)
  | .list xs => fun fuel e1 e2 t1 hw hn hf hc hd hd1 h => by
    have hx : noEllS xs = true := hn
    obtain ⟨k, rfl, hk⟩ := list_fuel hd
    rw [fill_list_noEll (k + 1) xs e1 hx, Option.bind_eq_some_iff] at h
    obtain ⟨a1, ha, h⟩ := h
    obtain ⟨ys, hys, _, _, _, rfl⟩ := mkList_eq_some.mp h
    have := compose_S xs k (e1.filter (fun kv => !isEllKey kv)) (e2.filter (fun kv => !isEllKey kv)) a1 ys
      (wf_list_iff.mp hw).2.1 hx hf (closedOnS_filter e1 xs hc) hk (Nat.le_of_succ_le_succ hd1) ha hys
    refine ⟨this.1, ?_⟩
    rw [fill_list_noEll (k + 1) ys e2 this.1, fill_list_noEll (k + 1) xs (e1 ++ e2) hx, this.2, List.filter_append]
  | .ascii _ | .empty | .asciiVar _ _ _ | .binary _ | .boolean _ | .int _ _ | .uint _ _ | .float _ _ =>
    fun fuel e1 e2 t1 hw _ hf hc _ _ h => compose_leaf _ rfl fuel e1 e2 t1 hw hf hc h

theorem compose_S : ∀ (xs : Slots) (fuel : Nat) (o1 o2 : Env) (a1 : List GoVal) (ys : Slots),
    xs.wfAll = true → noEllS xs = true → noFloatS xs = true → closedOnS o1 xs →
    xs.depth ≤ fuel → ys.depth ≤ fuel →
    fillSlots (fun t => fill (fuel + 1) t o1) o1 xs = some a1 → mkListSlots a1 = some ys →
    noEllS ys = true ∧
      fillSlots (fun t => fill (fuel + 1) t o2) o2 ys = fillSlots (fun t => fill (fuel + 1) t (o1 ++ o2)) (o1 ++ o2) xs
  | .nil => fun fuel o1 o2 a1 ys _ _ _ _ _ _ h hm => by
    cases h; cases hm; exact ⟨rfl, rfl⟩
  | .var n r => fun fuel o1 o2 a1 ys hw hn hf hc hd hd1 h hm => by
    simp only [noEllS, Bool.and_eq_true, Bool.not_eq_true'] at hn
    obtain ⟨a1', ys', hr, hm', hcase⟩ := fillSlots_var_some h hm
    have ih := fun hd1' => compose_S r fuel o1 o2 a1' ys' hw hn.2 hf hc.2 hd hd1' hr hm'
    rcases hcase with ⟨h1, rfl⟩ | ⟨t', h1, rfl⟩ | ⟨m, h1, rfl⟩
    · have ih := ih hd1
      refine ⟨by simp [noEllS, hn.1, ih.1], ?_⟩
      simp only [fillSlots, ih.2, get_append, h1]
    · -- a fill-in item has no variables: the second fill returns it as it is
      obtain ⟨hwt, hvt, _⟩ := (hc.1 _ h1).2 t' rfl
      simp only [Slots.depth, Nat.max_le] at hd1
      have ih := ih hd1.2
      have hnt := noEllT_of_novars t' hvt
      refine ⟨by simp [noEllS, hnt, ih.1], ?_⟩
      simp only [fillSlots, fill_unbound t' fuel o2 hd1.1 hwt (by simp [hvt]), ih.2, get_append, h1]
      cases fillSlots (fun t => fill (fuel + 1) t (o1 ++ o2)) (o1 ++ o2) r <;> rfl
    · exact absurd rfl ((hc.1 _ h1).1 m)
  | .item t r => fun fuel o1 o2 a1 ys hw hn hf hc hd hd1 h hm => by
    simp only [noEllS, noFloatS, Slots.wfAll, Bool.and_eq_true] at hn hf hw
    obtain ⟨t1, a1', ys', ht, hr, hm', rfl⟩ := fillSlots_item_some h hm
    simp only [Slots.depth, Nat.max_le] at hd hd1
    have ihT := compose_T t fuel o1 o2 t1 hw.1 hn.1 hf.1 hc.1 hd.1 hd1.1 ht
    have ihS := compose_S r fuel o1 o2 a1' ys' hw.2 hn.2 hf.2 hc.2 hd.2 hd1.2 hr hm'
    refine ⟨by simp [noEllS, ihT.1, ihS.1], ?_⟩
    simp only [fillSlots, ihT.2, ihS.2]
end

/-- **C09, composition** on `ItemNode.FillVariables` itself. -/
theorem Tmpl.fill_compose (t t1 : Tmpl) (e1 e2 : Env) (hw : t.wf = true) (hn : noEllT t = true) (hf : noFloatT t = true)
    (hc : closedOnT e1 t) (h : t.fill e1 = some t1) : t1.fill e2 = t.fill (e1 ++ e2) := by
  have h' : Secs.fill (max t.depth t1.depth + 1) t e1 = some t1 := by
    rw [fill_eq_Tmpl_fill t _ e1 hn (Nat.le_max_left _ _)]; exact h
  have := compose_T t (max t.depth t1.depth) e1 e2 t1 hw hn hf hc (Nat.le_max_left _ _) (Nat.le_max_right _ _) h'
  rw [← fill_eq_Tmpl_fill t1 _ e2 this.1 (Nat.le_max_right _ _), ← fill_eq_Tmpl_fill t _ (e1 ++ e2) hn (Nat.le_max_left _ _)]
  exact this.2

mutual
theorem vars_not_ellipsis_T : ∀ t : Tmpl, t.wf = true → noEllT t = true → ∀ v ∈ t.vars, isEllipsis v = false
  | .list xs, hw, hn, v, hv => by
    exact vars_not_ellipsis_S xs (wf_list_iff.mp hw).2.1 (by simpa [noEllT] using hn) v (by simpa [Tmpl.vars] using hv)
  | .ascii _, hw, _, v, hv | .empty, hw, _, v, hv | .asciiVar _ _ _, hw, _, v, hv | .binary _, hw, _, v, hv
  | .boolean _, hw, _, v, hv | .int _ _, hw, _, v, hv | .uint _ _, hw, _, v, hv | .float _ _, hw, _, v, hv =>
    valid_not_ellipsis v (leaf_names_valid _ rfl hw v hv)

theorem vars_not_ellipsis_S : ∀ xs : Slots, xs.wfAll = true → noEllS xs = true → ∀ v ∈ xs.vars, isEllipsis v = false
  | .nil => fun _ _ v hv => by simp [Slots.vars] at hv
  | .var n r => fun hw hn v hv => by
    simp only [noEllS, Bool.and_eq_true, Bool.not_eq_true'] at hn
    simp only [Slots.vars, List.mem_cons] at hv
    rcases hv with rfl | hv
    · exact hn.1
    · exact vars_not_ellipsis_S r (by simpa [Slots.wfAll] using hw) hn.2 v hv
  | .item t r => fun hw hn v hv => by
    simp only [noEllS, Bool.and_eq_true] at hn
    simp only [Slots.wfAll, Bool.and_eq_true] at hw
    by_cases ht : t = .empty
    · subst ht
      simp only [Slots.vars, List.mem_cons] at hv
      rcases hv with rfl | hv
      · rfl
      · exact vars_not_ellipsis_S r hw.2 hn.2 v hv
    · rw [slots_vars_item t r ht, List.mem_append] at hv
      rcases hv with hv | hv
      · exact vars_not_ellipsis_T t hw.1 hn.1 v hv
      · exact vars_not_ellipsis_S r hw.2 hn.2 v hv
end

mutual
/-- **Unmentioned variables remain in their original order**: the variables of the filled item
are the template's variables without the bound ones, in the same order, at every depth. The table
binds nothing to the empty name (`Env.get? e [] = none`), under which the variable list shows an
`emptyItemNode` inside a list. -/
theorem vars_T : ∀ (t : Tmpl) (fuel : Nat) (e : Env) (t1 : Tmpl),
    t.wf = true → noEllT t = true → noFloatT t = true → closedOnT e t → Env.get? e [] = none →
    t.depth ≤ fuel → fill (fuel + 1) t e = some t1 →
    t1.vars = t.vars.filter (unboundIn e) ∧ (t ≠ .empty → t1 ≠ .empty)
  | .list xs => fun fuel e t1 hw hn hf hc he hd h => by
    have hx : noEllS xs = true := hn
    obtain ⟨k, rfl, hk⟩ := list_fuel hd
    rw [fill_list_noEll (k + 1) xs e hx, Option.bind_eq_some_iff] at h
    obtain ⟨a1, ha, h⟩ := h
    obtain ⟨ys, hys, _, _, _, rfl⟩ := mkList_eq_some.mp h
    have hwa := (wf_list_iff.mp hw).2.1
    have := vars_S xs k (e.filter (fun kv => !isEllKey kv)) a1 ys hwa hx hf
      (closedOnS_filter e xs hc) (get_filter_none e [] he) hk ha hys
    refine ⟨?_, fun _ => nofun⟩
    simp only [Tmpl.vars, this]
    refine List.filter_congr fun v hv => ?_
    rw [unboundIn, get_filter_notEll, vars_not_ellipsis_S xs hwa hx v hv]
    rfl
  | .ascii _ | .empty | .asciiVar _ _ _ | .binary _ | .boolean _ | .int _ _ | .uint _ _ | .float _ _ =>
    fun fuel e t1 hw _ hf hc _ _ h => leaf_vars _ e t1 hw hf hc ((fill_leaf fuel _ e rfl).symm.trans h)

theorem vars_S : ∀ (xs : Slots) (fuel : Nat) (o : Env) (a1 : List GoVal) (ys : Slots),
    xs.wfAll = true → noEllS xs = true → noFloatS xs = true → closedOnS o xs → Env.get? o [] = none →
    xs.depth ≤ fuel →
    fillSlots (fun t => fill (fuel + 1) t o) o xs = some a1 → mkListSlots a1 = some ys →
    ys.vars = xs.vars.filter (unboundIn o)
  | .nil => fun fuel o a1 ys _ _ _ _ _ _ h hm => by
    cases h; cases hm; rfl
  | .var n r => fun fuel o a1 ys hw hn hf hc he hd h hm => by
    simp only [noEllS, Bool.and_eq_true] at hn
    obtain ⟨a1', ys', hr, hm', hcase⟩ := fillSlots_var_some h hm
    have ih := vars_S r fuel o a1' ys' hw hn.2 hf hc.2 he hd hr hm'
    rcases hcase with ⟨h1, rfl⟩ | ⟨t', h1, rfl⟩ | ⟨m, h1, rfl⟩
    · simp [Slots.vars, unboundIn, h1, ih]
    · obtain ⟨_, hvt, hne⟩ := (hc.1 _ h1).2 t' rfl
      rw [slots_vars_item t' ys' hne, hvt]
      simp [Slots.vars, unboundIn, h1, ih]
    · exact absurd rfl ((hc.1 _ h1).1 m)
  | .item t r => fun fuel o a1 ys hw hn hf hc he hd h hm => by
    simp only [noEllS, noFloatS, Slots.wfAll, Bool.and_eq_true] at hn hf hw
    obtain ⟨t1, a1', ys', ht, hr, hm', rfl⟩ := fillSlots_item_some h hm
    simp only [Slots.depth, Nat.max_le] at hd
    obtain ⟨ihT, ihne⟩ := vars_T t fuel o t1 hw.1 hn.1 hf.1 hc.1 he hd.1 ht
    have ihS := vars_S r fuel o a1' ys' hw.2 hn.2 hf.2 hc.2 he hd.2 hr hm'
    by_cases hte : t = .empty
    · subst hte
      cases ht
      simp [Slots.vars, unboundIn, he, ihS]
    · rw [slots_vars_item t1 ys' (ihne hte), slots_vars_item t r hte, List.filter_append, ihT, ihS]
end

/-- on `ItemNode.FillVariables` -/
theorem Tmpl.fill_vars (t t1 : Tmpl) (e : Env) (hw : t.wf = true) (hn : noEllT t = true) (hf : noFloatT t = true)
    (hc : closedOnT e t) (he : Env.get? e [] = none) (h : t.fill e = some t1) :
    t1.vars = t.vars.filter (unboundIn e) :=
  (vars_T t t.depth e t1 hw hn hf hc he (Nat.le_refl _) h).1

mutual
/-- **A first step that is refused is refused in one step as well** (the refusal is caused by a
value of the first table, which the union still holds). `Env.get? e1 [] = none` as in `vars_T`. -/
theorem refuse_T : ∀ (t : Tmpl) (fuel : Nat) (e1 e2 : Env),
    t.wf = true → noEllT t = true → noFloatT t = true → closedOnT e1 t → Env.get? e1 [] = none →
    t.depth ≤ fuel → fill (fuel + 1) t e1 = none → fill (fuel + 1) t (e1 ++ e2) = none
  | .list xs => fun fuel e1 e2 hw hn hf hc he hd h => by
    have hx : noEllS xs = true := hn
    obtain ⟨k, rfl, hk⟩ := list_fuel hd
    rw [fill_list_noEll (k + 1) xs _ hx] at h ⊢
    rw [List.filter_append]
    obtain ⟨hlen, hwa, hown, hnd⟩ := wf_list_iff.mp hw
    have hcS := closedOnS_filter e1 xs hc
    have heS := get_filter_none e1 [] he
    cases ha : fillSlots (fun t => fill (k + 1) t (e1.filter (fun kv => !isEllKey kv))) (e1.filter (fun kv => !isEllKey kv)) xs with
    | none => rw [refuse_S xs k _ (e2.filter (fun kv => !isEllKey kv)) hwa hx hf hcS heS hk ha]; rfl
    | some a1 =>
      rw [ha, Option.bind_some] at h
      refine Option.eq_none_iff_forall_ne_some.mpr fun t ht => ?_
      obtain ⟨aC, hb, ht⟩ := Option.bind_eq_some_iff.mp ht
      obtain ⟨ysC, hmC, _⟩ := mkList_eq_some.mp ht
      -- the arguments of the first step convert as well, and pass the checks of the list factory
      cases hm : mkListSlots a1 with
      | none => rw [listSlots_none_transfer _ _ _ _ xs a1 aC ha hb hm] at hmC; cases hmC
      | some ys1 =>
        have hv := vars_S xs k _ a1 ys1 hwa hx hf hcS heS hk ha hm
        rw [mkList_eq_some.mpr ⟨ys1, hm, by rw [mkListSlots_length _ _ hm, fillSlots_length _ _ xs a1 ha]; exact hlen,
          listOwnOk_after_fill _ _ xs 0 false a1 ys1 hx hcS ha hm hown, by rw [hv]; exact nodupNames_filter _ _ hnd, rfl⟩] at h
        cases h
  | .ascii _ | .empty | .asciiVar _ _ _ | .binary _ | .boolean _ | .int _ _ | .uint _ _ | .float _ _ =>
    fun fuel e1 e2 hw _ hf hc _ _ h =>
    (fill_leaf _ _ _ rfl).trans (leaf_refuse _ e1 e2 hw hf hc ((fill_leaf fuel _ e1 rfl).symm.trans h))

theorem refuse_S : ∀ (xs : Slots) (fuel : Nat) (o1 o2 : Env),
    xs.wfAll = true → noEllS xs = true → noFloatS xs = true → closedOnS o1 xs → Env.get? o1 [] = none →
    xs.depth ≤ fuel →
    fillSlots (fun t => fill (fuel + 1) t o1) o1 xs = none →
    fillSlots (fun t => fill (fuel + 1) t (o1 ++ o2)) (o1 ++ o2) xs = none
  | .nil => fun _ _ _ _ _ _ _ _ _ h => by cases h
  | .var n r => fun fuel o1 o2 hw hn hf hc he hd h => by
    simp only [noEllS, Bool.and_eq_true] at hn
    simp only [fillSlots, Option.map_eq_none_iff] at h ⊢
    exact refuse_S r fuel o1 o2 hw hn.2 hf hc.2 he hd h
  | .item t r => fun fuel o1 o2 hw hn hf hc he hd h => by
    simp only [noEllS, noFloatS, Slots.wfAll, Bool.and_eq_true] at hn hf hw
    simp only [Slots.depth, Nat.max_le] at hd
    simp only [fillSlots] at h ⊢
    cases ht : fill (fuel + 1) t o1 with
    | none => rw [refuse_T t fuel o1 o2 hw.1 hn.1 hf.1 hc.1 he hd.1 ht]
    | some t1 =>
      cases hr : fillSlots (fun t => fill (fuel + 1) t o1) o1 r with
      | none =>
        rw [refuse_S r fuel o1 o2 hw.2 hn.2 hf.2 hc.2 he hd.2 hr]
        cases fill (fuel + 1) t (o1 ++ o2) <;> rfl
      | some a => simp [ht, hr] at h
end

/-- **C09, composition, refusals included**: filling once with the union is filling with the first
table and then — if that is accepted — with the second. -/
theorem Tmpl.fill_compose_bind (t : Tmpl) (e1 e2 : Env) (hw : t.wf = true) (hn : noEllT t = true) (hf : noFloatT t = true)
    (hc : closedOnT e1 t) (he : Env.get? e1 [] = none) :
    t.fill (e1 ++ e2) = (t.fill e1).bind (fun t1 => t1.fill e2) := by
  cases h : t.fill e1 with
  | none => exact refuse_T t t.depth e1 e2 hw hn hf hc he (Nat.le_refl _) h
  | some t1 => exact (Tmpl.fill_compose t t1 e1 e2 hw hn hf hc h).symm

end Secs
