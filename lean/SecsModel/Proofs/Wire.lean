/- The encoder produces exactly the encodings the wire-format relation allows (C02). -/
import SecsModel.Proofs.Codec
import SecsModel.Spec.Wire
import SecsModel.Proofs.Factories
namespace Secs
open Spec

theorem headerBytes_eq (f : Fmt) (size : Nat) (h : size * f.width ≤ limit) :
    headerBytes f size = some (header f.code (size * f.width)) := by
  unfold header
  rw [headerBytes_closed f size h, lenBytes_eq_nLB]

theorem withHeader_eq (f : Fmt) (size : Nat) (payload : Bytes) (h : size * f.width ≤ limit) :
    withHeader f size payload = header f.code (size * f.width) ++ payload := by
  unfold withHeader
  rw [headerBytes_eq f size h]

/-- Go keeps 64 bits, the standard `8 * w`: the same `w` low bytes, since `8 * w ≤ 64` -/
theorem intBytes_eq_twos (w : Nat) (hw : w ≤ 8) (v : Int) : intBytes w v = twos w v := by
  have hd : ((2 : Int) ^ (8 * w)) ∣ (2 : Int) ^ 64 :=
    ⟨2 ^ (64 - 8 * w), by rw [← Int.pow_add]; congr 1; omega⟩
  have hp : ((2 : Int) ^ (8 * w)).toNat = 256 ^ w := by
    rw [Int.toNat_pow_of_nonneg (by decide), pow8]; rfl
  unfold intBytes twos
  rw [← beEnc_mod w ((v % (2 : Int) ^ 64).toNat), ← hp,
    ← Int.toNat_emod (Int.emod_nonneg _ (by decide)) (Int.pow_nonneg (by decide)), Int.emod_emod_of_dvd _ hd]

/-! ### per kind: what `wf` asks of a variable-free node, and what `enc` writes for it -/

theorem wf_ascii (s : Bytes) : (Tmpl.ascii s).wf = true ↔ (∀ c ∈ s, c < 128) ∧ s.length ≤ limit := by
  simp [Tmpl.wf, limit_eq, and_comm]

theorem enc_ascii (s : Bytes) (h : s.length ≤ limit) : (Tmpl.ascii s).enc = header 0o20 s.length ++ s := by
  simpa [Fmt.width, Fmt.code, Tmpl.enc] using withHeader_eq .ascii s.length s (by simpa [Fmt.width] using h)

theorem wf_binary (vs : List Nat) :
    (Tmpl.binary (vs.map Slot.val)).wf = true ↔ (∀ v ∈ vs, v < 256) ∧ vs.length ≤ limit := by
  simp [Tmpl.wf, limit_eq, slotsOk_map_val, and_comm]

theorem enc_binary (vs : List Nat) (hv : ∀ v ∈ vs, v < 256) (h : vs.length ≤ limit) :
    (Tmpl.binary (vs.map Slot.val)).enc = header 0o10 vs.length ++ vs := by
  have hmod : vs.map (· % 256) = vs :=
    (List.map_congr_left fun v hm => Nat.mod_eq_of_lt (hv v hm)).trans (List.map_id vs)
  simpa [Fmt.width, Fmt.code, Tmpl.enc, slotVals_map_val, hmod] using
    withHeader_eq .binary vs.length vs (by simpa [Fmt.width] using h)

theorem wf_boolean (vs : List Bool) : (Tmpl.boolean (vs.map Slot.val)).wf = true ↔ vs.length ≤ limit := by
  simp [Tmpl.wf, limit_eq, slotsOk_map_val]

theorem enc_boolean (vs : List Bool) (h : vs.length ≤ limit) :
    (Tmpl.boolean (vs.map Slot.val)).enc = header 0o11 vs.length ++ vs.map (fun b => if b then 1 else 0) := by
  simpa [Fmt.width, Fmt.code, Tmpl.enc, slotVals_map_val] using
    withHeader_eq .boolean vs.length (vs.map (fun b => if b then 1 else 0)) (by simpa [Fmt.width] using h)

theorem wf_int (w : Nat) (vs : List Int) :
    (Tmpl.int w (vs.map Slot.val)).wf = true ↔ (intFmt? w).isSome = true ∧
      (∀ v ∈ vs, -(2 : Int) ^ (8 * w - 1) ≤ v ∧ v < (2 : Int) ^ (8 * w - 1)) ∧ vs.length * w ≤ limit := by
  simp only [Tmpl.wf, Bool.and_eq_true, decide_eq_true_eq, List.length_map, validWidthInt_eq, limit_eq,
    slotsOk_map_val, intInRange, and_assoc, Int.lt_iff_add_one_le, Int.le_sub_one_iff]
  exact and_congr_right fun _ => and_comm

theorem enc_int (w : Nat) (f : Fmt) (hf : intFmt? w = some f) (vs : List Int) (h : vs.length * w ≤ limit) :
    (Tmpl.int w (vs.map Slot.val)).enc = header f.code (vs.length * w) ++ vs.flatMap (twos w) := by
  obtain ⟨hfw, _, hw4⟩ := intFmt_width w f hf
  rw [← funext (intBytes_eq_twos w (by omega)), ← hfw, ← withHeader_eq f vs.length _ (hfw ▸ h), hfw]
  simp only [Tmpl.enc, slotVals_map_val, hf]

theorem wf_uint (w : Nat) (vs : List Nat) :
    (Tmpl.uint w (vs.map Slot.val)).wf = true ↔ (uintFmt? w).isSome = true ∧
      (∀ v ∈ vs, v < 2 ^ (8 * w)) ∧ vs.length * w ≤ limit := by
  have hp : 0 < 2 ^ (8 * w) := Nat.pow_pos (by omega)
  simp only [Tmpl.wf, Bool.and_eq_true, decide_eq_true_eq, List.length_map, validWidthInt_eq', limit_eq,
    slotsOk_map_val, uintInRange, and_assoc, show ∀ v, v ≤ 2 ^ (8 * w) - 1 ↔ v < 2 ^ (8 * w) by omega]
  exact and_congr_right fun _ => and_comm

theorem enc_uint (w : Nat) (f : Fmt) (hf : uintFmt? w = some f) (vs : List Nat) (h : vs.length * w ≤ limit) :
    (Tmpl.uint w (vs.map Slot.val)).enc = header f.code (vs.length * w) ++ vs.flatMap (beEnc w) := by
  obtain ⟨hfw, _, _⟩ := uintFmt_width w f hf
  rw [← hfw, ← withHeader_eq f vs.length _ (hfw ▸ h), hfw]
  simp only [Tmpl.enc, slotVals_map_val, hf]

theorem wf_float (w : Nat) (vs : List Nat) :
    (Tmpl.float w (vs.map Slot.val)).wf = true ↔ (floatFmt? w).isSome = true ∧
      (∀ v ∈ vs, v < 2 ^ (8 * w) ∧ FloatLib.isFinite w v = true) ∧ vs.length * w ≤ limit := by
  simp only [Tmpl.wf, Bool.and_eq_true, decide_eq_true_eq, List.length_map, validWidthFloat_eq, limit_eq,
    slotsOk_map_val, and_assoc]
  exact and_congr_right fun _ => and_comm

theorem enc_float (w : Nat) (f : Fmt) (hf : floatFmt? w = some f) (vs : List Nat) (h : vs.length * w ≤ limit) :
    (Tmpl.float w (vs.map Slot.val)).enc = header f.code (vs.length * w) ++ vs.flatMap (beEnc w) := by
  obtain ⟨hfw, _, _⟩ := floatFmt_width w f hf
  rw [← hfw, ← withHeader_eq f vs.length _ (hfw ▸ h), hfw]
  simp only [Tmpl.enc, slotVals_map_val, hf]

theorem wf_list (xs : Slots) (hc : xs.closedAll = true) :
    (Tmpl.list xs).wf = true ↔ xs.wfAll = true ∧ xs.len ≤ limit := by
  simp [Tmpl.wf, limit_eq, listOwnOk_closed xs hc, varss_closed xs hc, nodupNames, and_comm]

theorem enc_list (xs : Slots) (p : Bytes) (hp : xs.enc = some p) (h : xs.len ≤ limit) :
    (Tmpl.list xs).enc = header 0o00 xs.len ++ p := by
  have := headerBytes_eq .list xs.len (by simpa [Fmt.width] using h)
  simp only [Fmt.width, Fmt.code, Nat.mul_one] at this
  simp only [Tmpl.enc, this, hp]

theorem encodes_ne_nil (t : Tmpl) (b : Bytes) (h : Encodes t b) : b ≠ [] := by
  cases h <;> simp [header]

theorem encs_item (t : Tmpl) (r : Slots) (p : Bytes) (ht : t.enc ≠ []) (hp : r.enc = some p) :
    (Slots.item t r).enc = some (t.enc ++ p) := by
  simp only [Slots.enc, hp]

mutual
/-- soundness: what the encoder writes for a well-formed closed item is a standard encoding -/
theorem enc_sound (t : Tmpl) (hw : t.wf = true) (hc : t.closed = true) : Encodes t t.enc := by
  cases t with
  | empty => simp [Tmpl.closed] at hc
  | asciiVar n a b => simp [Tmpl.closed] at hc
  | list xs =>
    have hcl : xs.closedAll = true := by simpa [Tmpl.closed] using hc
    obtain ⟨hwf, hlen⟩ := (wf_list xs hcl).mp hw
    obtain ⟨p, hp, hall⟩ := encs_sound xs hwf hcl
    rw [enc_list xs p hp hlen]
    exact Encodes.list xs p hall hlen
  | ascii s =>
    obtain ⟨h7, hlen⟩ := (wf_ascii s).mp hw
    rw [enc_ascii s hlen]
    exact Encodes.ascii s h7 hlen
  | binary xs =>
    obtain ⟨vs, rfl⟩ := closed_slots xs (by simpa [Tmpl.closed] using hc)
    obtain ⟨hv, hlen⟩ := (wf_binary vs).mp hw
    rw [enc_binary vs hv hlen]
    exact Encodes.binary vs hv hlen
  | boolean xs =>
    obtain ⟨vs, rfl⟩ := closed_slots xs (by simpa [Tmpl.closed] using hc)
    have hlen := (wf_boolean vs).mp hw
    rw [enc_boolean vs hlen]
    exact Encodes.boolean vs hlen
  | int w xs =>
    obtain ⟨vs, rfl⟩ := closed_slots xs (by simpa [Tmpl.closed] using hc)
    obtain ⟨hsome, hr, hlen⟩ := (wf_int w vs).mp hw
    obtain ⟨f, hf⟩ := Option.isSome_iff_exists.mp hsome
    rw [enc_int w f hf vs hlen]
    exact Encodes.int w f.code vs (by rw [intCode_eq, hf]; rfl) hr hlen
  | uint w xs =>
    obtain ⟨vs, rfl⟩ := closed_slots xs (by simpa [Tmpl.closed] using hc)
    obtain ⟨hsome, hr, hlen⟩ := (wf_uint w vs).mp hw
    obtain ⟨f, hf⟩ := Option.isSome_iff_exists.mp hsome
    rw [enc_uint w f hf vs hlen]
    exact Encodes.uint w f.code vs (by rw [uintCode_eq, hf]; rfl) hr hlen
  | float w xs =>
    obtain ⟨vs, rfl⟩ := closed_slots xs (by simpa [Tmpl.closed] using hc)
    obtain ⟨hsome, hr, hlen⟩ := (wf_float w vs).mp hw
    obtain ⟨f, hf⟩ := Option.isSome_iff_exists.mp hsome
    rw [enc_float w f hf vs hlen]
    exact Encodes.float w f.code vs (by rw [floatCode_eq, hf]; rfl) hr hlen

theorem encs_sound (xs : Slots) (hw : xs.wfAll = true) (hc : xs.closedAll = true) :
    ∃ p, xs.enc = some p ∧ EncodesAll xs p := by
  cases xs with
  | nil => exact ⟨[], rfl, EncodesAll.nil⟩
  | var n r => simp [Slots.closedAll] at hc
  | item t r =>
    simp only [Slots.wfAll, Bool.and_eq_true] at hw
    simp only [Slots.closedAll, Bool.and_eq_true] at hc
    obtain ⟨p, hp, hall⟩ := encs_sound r hw.2 hc.2
    have ht := enc_sound t hw.1 hc.1
    exact ⟨t.enc ++ p, encs_item t r p (encodes_ne_nil t _ ht) hp, EncodesAll.cons t r _ p ht hall⟩
end

mutual
/-- uniqueness: the relation admits only the encoder's output, and only for items the API can
build (well-formed) without variables -/
theorem enc_unique (t : Tmpl) (b : Bytes) (h : Encodes t b) : t.wf = true ∧ t.closed = true ∧ b = t.enc := by
  cases h with
  | list xs p hall hlen =>
    obtain ⟨h1, h2, h3⟩ := encs_unique xs p hall
    exact ⟨(wf_list xs h2).mpr ⟨h1, hlen⟩, by simpa [Tmpl.closed] using h2, (enc_list xs p h3 hlen).symm⟩
  | ascii s h7 hlen => exact ⟨(wf_ascii s).mpr ⟨h7, hlen⟩, rfl, (enc_ascii s hlen).symm⟩
  | binary vs hv hlen =>
    exact ⟨(wf_binary vs).mpr ⟨hv, hlen⟩, by simp [Tmpl.closed, slotVars_map_val], (enc_binary vs hv hlen).symm⟩
  | boolean vs hlen =>
    exact ⟨(wf_boolean vs).mpr hlen, by simp [Tmpl.closed, slotVars_map_val], (enc_boolean vs hlen).symm⟩
  | int w code vs hcode hr hlen =>
    rw [intCode_eq, Option.map_eq_some_iff] at hcode
    obtain ⟨f, hf, rfl⟩ := hcode
    exact ⟨(wf_int w vs).mpr ⟨by rw [hf]; rfl, hr, hlen⟩, by simp [Tmpl.closed, slotVars_map_val],
      (enc_int w f hf vs hlen).symm⟩
  | uint w code vs hcode hr hlen =>
    rw [uintCode_eq, Option.map_eq_some_iff] at hcode
    obtain ⟨f, hf, rfl⟩ := hcode
    exact ⟨(wf_uint w vs).mpr ⟨by rw [hf]; rfl, hr, hlen⟩, by simp [Tmpl.closed, slotVars_map_val],
      (enc_uint w f hf vs hlen).symm⟩
  | float w code vs hcode hr hlen =>
    rw [floatCode_eq, Option.map_eq_some_iff] at hcode
    obtain ⟨f, hf, rfl⟩ := hcode
    exact ⟨(wf_float w vs).mpr ⟨by rw [hf]; rfl, hr, hlen⟩, by simp [Tmpl.closed, slotVars_map_val],
      (enc_float w f hf vs hlen).symm⟩

theorem encs_unique (xs : Slots) (p : Bytes) (h : EncodesAll xs p) :
    xs.wfAll = true ∧ xs.closedAll = true ∧ xs.enc = some p := by
  cases h with
  | nil => exact ⟨rfl, rfl, rfl⟩
  | cons t r b q hb hq =>
    obtain ⟨h1, h2, rfl⟩ := enc_unique t b hb
    obtain ⟨g1, g2, g3⟩ := encs_unique r q hq
    exact ⟨by simp [Slots.wfAll, h1, g1], by simp [Slots.closedAll, h2, g2],
      encs_item t r q (encodes_ne_nil t _ hb) g3⟩
end

end Secs
